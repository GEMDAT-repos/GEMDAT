import GModel.Shape
import GProofs.Geometry
import Mathlib.Tactic.Linarith
import Mathlib.Tactic.Ring
/-!
# C17 — shape analysis collects exactly the symmetry-equivalent points in the radius

Re-imaging moves by whole cells and leaves every component of the difference in [−½, ½]; a vector shorter than
`r`, with `r` below half of every perpendicular width, has all components in (−½, ½)
(`small_vector_components`), and a class modulo 1 has one representative there: so the per-axis re-image IS the
short image (`reduced_eq_short_image`, shared with C18).
-/
namespace G.C17
open G G.Shape G.Geometry

theorem v3_sub_def (a b : V3) : a - b = ⟨a.x - b.x, a.y - b.y, a.z - b.z⟩ := V3.sub_def a b

/-- **C17 (count)**: one collected point per (operation, position) pair within the radius of the moved site. -/
theorem collect_length (G : Sym3) (rsq : ℚ) (site : V3) (positions : List V3) (asWas : Bool) (ops : List (Op × Op)) :
    (collect G rsq site positions asWas ops).length = countPairs G rsq site positions ops := by
  unfold collect countPairs collectOp
  simp only [List.length_flatMap, List.length_map]

/-- the linear part `R` preserves the metric: `Rᵀ G R = G`, stated on the quadratic form -/
def Isometry (G : Sym3) (o : Op) : Prop := ∀ v : V3, G.Q (o.lin v) = G.Q v

def InverseOf (op inv : Op) : Prop := ∀ x : V3, inv.apply (op.apply x) = x

theorem apply_sub (o : Op) (a b : V3) : o.apply a - o.apply b = o.lin (a - b) := by
  simp only [v3_sub_def, Op.apply, Op.lin, V3.dot, V3.mk.injEq]
  refine ⟨?_, ?_, ?_⟩ <;> ring

/-- **C17 (inverse image)**: the collected point is the inverse operation's linear part applied to
(re-imaged position − moved site). -/
theorem centred_eq_inverse_image (op inv : Op) (hinv : InverseOf op inv) (site p : V3) :
    inv.apply p - site = inv.lin (p - op.apply site) := by
  rw [← apply_sub, hinv site]

/-- **C17 (distance)**: for an isometric inverse operation the point's squared distance to the centre
is the squared length of (re-imaged position − moved site). -/
theorem point_dist_eq_source_dist (G : Sym3) (op inv : Op) (hinv : InverseOf op inv) (hiso : Isometry G inv)
    (site p : V3) : G.Q (inv.apply p - site) = G.Q (p - op.apply site) := by
  rw [centred_eq_inverse_image op inv hinv site p, hiso]

theorem reimage_congr (sym p : V3) :
    ∃ n1 n2 n3 : ℤ, reimage sym p = ⟨p.x + n1, p.y + n2, p.z + n3⟩ :=
  ⟨-rne (p.x - sym.x), -rne (p.y - sym.y), -rne (p.z - sym.z), by
    simp only [reimage, Int.cast_neg, ← sub_eq_add_neg]⟩

theorem reimage_close (sym p : V3) :
    |(reimage sym p).x - sym.x| ≤ 1 / 2 ∧ |(reimage sym p).y - sym.y| ≤ 1 / 2 ∧ |(reimage sym p).z - sym.z| ≤ 1 / 2 :=
  have key (a b : ℚ) : |a - (rne (a - b) : ℚ) - b| ≤ 1 / 2 :=
    sub_right_comm a _ b ▸ C01.abs_sub_rne_le_half (a - b)
  ⟨key _ _, key _ _, key _ _⟩

/-- **C17 (radius below half the perpendicular widths)**: a vector of squared length below `r²` in a
cell with `4 r² · adj_ii ≤ det G` has all three fractional components strictly inside (−½, ½). -/
theorem small_vector_components (G : Sym3) (hpd : PosDef G) (v : V3) (rsq : ℚ) (hq : G.Q v < rsq)
    (h1 : 4 * rsq * G.adj1 ≤ G.det) (h2 : 4 * rsq * G.adj2 ≤ G.det) (h3 : 4 * rsq * G.adj3 ≤ G.det) :
    |v.x| < 1 / 2 ∧ |v.y| < 1 / 2 ∧ |v.z| < 1 / 2 :=
  have h {a : ℚ} (h : 4 * rsq * a ≤ G.det) : rsq * a ≤ (1 / 2) ^ 2 * G.det := by linarith
  coord_lt_of_Q_lt G hpd v rsq (1 / 2) one_half_pos.le hq (h h1) (h h2) (h h3)

theorem rne_eq_neg_of_abs_lt (d : ℚ) (n : ℤ) (h : |d + n| < 1 / 2) : rne d = -n :=
  C01.rne_eq_of_abs_sub_lt (by rwa [Int.cast_neg, sub_neg_eq_add])

/-- `u` is any integer translate of `d` with all components in [−½, ½]: `reimage` and C18's `direction` are two ways
to compute one -/
theorem reduced_eq_short_image (G : Sym3) (hpd : PosDef G) (d u : V3) (rsq : ℚ) (m1 m2 m3 n1 n2 n3 : ℤ)
    (hu : u = shiftBy d m1 m2 m3) (hr : |u.x| ≤ 1 / 2 ∧ |u.y| ≤ 1 / 2 ∧ |u.z| ≤ 1 / 2)
    (hq : G.Q (shiftBy d n1 n2 n3) < rsq)
    (h1 : 4 * rsq * G.adj1 ≤ G.det) (h2 : 4 * rsq * G.adj2 ≤ G.det) (h3 : 4 * rsq * G.adj3 ≤ G.det) :
    u = shiftBy d n1 n2 n3 := by
  obtain ⟨hx, hy, hz⟩ := small_vector_components G hpd _ rsq hq h1 h2 h3
  subst hu
  rw [C01.int_eq_of_abs_add hr.1 hx, C01.int_eq_of_abs_add hr.2.1 hy, C01.int_eq_of_abs_add hr.2.2 hz]

/-- if SOME periodic image of position − moved site is shorter than `r`, per-axis rounding finds exactly that image:
the re-imaged difference is the short vector itself. -/
theorem reimage_is_short_image (G : Sym3) (hpd : PosDef G) (sym p : V3) (rsq : ℚ) (n1 n2 n3 : ℤ)
    (hq : G.Q (shiftBy (p - sym) n1 n2 n3) < rsq)
    (h1 : 4 * rsq * G.adj1 ≤ G.det) (h2 : 4 * rsq * G.adj2 ≤ G.det) (h3 : 4 * rsq * G.adj3 ≤ G.det) :
    reimage sym p - sym = shiftBy (p - sym) n1 n2 n3 := by
  obtain ⟨m1, m2, m3, hm⟩ := reimage_congr sym p
  refine reduced_eq_short_image G hpd (p - sym) _ rsq m1 m2 m3 n1 n2 n3 ?_ (reimage_close sym p) hq h1 h2 h3
  rw [hm]
  exact shiftBy_sub p sym m1 m2 m3

/-- **C17 (supercell folding)**: `(p mod 1/s)·s` is `s·p` modulo 1. -/
theorem fold_spec (s p : ℚ) (hs : 0 < s) : foldSupercell s p = wrap (p * s) := by
  rw [foldSupercell, wrap, sub_mul, div_mul_cancel₀ _ hs.ne']

/-- defect D12 (repaired): with the moved site at −63/64 and a position at 31/32 the digitized offset
moves the position by one cell only, leaving it almost a full cell away; rounding moves it two cells -/
theorem reimageAsWas_counterexample :
    (reimageAsWas ⟨-63/64, 0, 0⟩ ⟨31/32, 0, 0⟩).x = -1/32 ∧ (reimage ⟨-63/64, 0, 0⟩ ⟨31/32, 0, 0⟩).x = -33/32 := by
  decide +kernel

example :
    let inv : Op := ⟨⟨-1, 0, 0⟩, ⟨0, -1, 0⟩, ⟨0, 0, -1⟩, ⟨0, 0, 0⟩⟩
    let M : M3 := ⟨⟨4, 0, 0⟩, ⟨0, 4, 0⟩, ⟨0, 0, 4⟩⟩
    collect M.metric 1 ⟨1/8, 0, 0⟩ [⟨7/8, 1/16, 0⟩, ⟨1/8, 0, 0⟩, ⟨1/2, 1/2, 1/2⟩] false [(inv, inv)]
      = [⟨0, -1/16, 0⟩] := by
  decide +kernel

end G.C17
