import GModel.Collective
import GProofs.C12
/-!
# C12 (early exit) — which early exit from the pair scan is sound

The original code left the inner loop at the first later row that STARTS too late (defect D9: rows are ordered by
STOP time, a later row may still start early enough).  An exit is sound exactly when it can argue about all later
rows: with the rows ordered by stop time and no transit longer than `L`, a row that stops more than `ms + L` after
`ei` stops — and every row after it — starts more than `ms` after `ei` stops, so the repaired loop finds nothing from
there on (`inner_nil_of_late`).
-/
namespace G.C12Exit
open G.Coll

variable (close : J → J → Bool) (ms : Int)

def innerExit (L : Int) (ei : J) : List J → List (J × J)
  | [] => []
  | ej :: rest =>
    if ej.t1 - ei.t1 > ms + L then []
    else if ej.t0 - ei.t1 > ms then innerExit L ei rest
    else if ei.t0 - ej.t1 > ms then innerExit L ei rest
    else if ei.atom = ej.atom then innerExit L ei rest
    else if close ei ej then (ei, ej) :: innerExit L ei rest
    else innerExit L ei rest

theorem inner_nil_of_all_late (ei : J) (l : List J) (h : ∀ e ∈ l, e.t0 - ei.t1 > ms) : inner close ms ei l = [] := by
  rw [C12.inner_eq_filter, List.filter_eq_nil_iff.2, List.map_nil]
  intro e he
  rw [decide_eq_true_eq]
  exact fun hP => hP.2.1 (h e he)

theorem inner_nil_of_late (L : Int) (ei ej : J) (rest : List J)
    (hdur : ∀ e ∈ ej :: rest, e.t1 - e.t0 ≤ L)
    (hsorted : ∀ e ∈ rest, ej.t1 ≤ e.t1)
    (hlate : ej.t1 - ei.t1 > ms + L) : inner close ms ei (ej :: rest) = [] := by
  refine inner_nil_of_all_late close ms ei _ fun e he => ?_
  have hd := hdur e he
  have ht : ej.t1 ≤ e.t1 := by
    rcases List.mem_cons.1 he with rfl | he
    · exact Int.le_refl _
    · exact hsorted e he
  omega

/-- **C12 (sound early exit)**: the loop with the exit reports exactly what the loop without it reports. -/
theorem innerExit_eq_inner (L : Int) (ei : J) :
    ∀ (l : List J), (∀ e ∈ l, e.t1 - e.t0 ≤ L) → l.Pairwise (fun a b => a.t1 ≤ b.t1) →
      innerExit close ms L ei l = inner close ms ei l := by
  intro l
  induction l with
  | nil => intro _ _; rfl
  | cons ej rest ih =>
    intro hdur hs
    have hs' := List.pairwise_cons.mp hs
    have ihr := ih (fun e he => hdur e (by simp [he])) hs'.2
    by_cases hlate : ej.t1 - ei.t1 > ms + L
    · rw [inner_nil_of_late close ms L ei ej rest hdur hs'.1 hlate]
      unfold innerExit
      rw [if_pos hlate]
    · unfold innerExit inner
      rw [if_neg hlate, ihr]

/-- the bound is tight: exiting already at `=` loses the pair (row 1 has the longest transit and starts exactly `ms` after
row 0 stops) -/
theorem exit_bound_tight :
    let a : J := ⟨0, 0, 0, 1, 0, 2⟩
    let b : J := ⟨1, 1, 2, 3, 5, 10⟩
    inner (fun _ _ => true) 3 a [b] = [(a, b)] ∧ (b.t1 - a.t1 ≥ 3 + 5) := by decide

end G.C12Exit
