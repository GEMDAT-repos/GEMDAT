import GGen.FormulasC08
import GModel.Volume
import GProofs.C08
import Mathlib.Tactic.Linarith
import Mathlib.Tactic.Ring
/-!
# C08 — obligations on the formula slice regenerated from /repo's source (GGen/FormulasC08.lean): voxel ↔ fractional coordinate
(DESIGN 12.8)
-/
namespace G.C08Gen
open G

theorem voxelToFrac_eq_model (n : Nat) (v : Int) : Gen.voxelToFrac (v : ℚ) (n : ℚ) = Volume.voxelToFrac n v := by
  unfold Gen.voxelToFrac Volume.voxelToFrac
  ring

theorem fracToVoxel_eq_model (n : Nat) (x : ℚ) : Gen.fracToVoxel x (n : ℚ) = Volume.fracToVoxel n x := by
  have h : Gen.fracToVoxel x (n : ℚ) = G.truncZ (x * (n : ℚ)) := by
    unfold Gen.fracToVoxel
    exact congrArg G.truncZ (by ring)
  rw [h]
  rfl

theorem roundtrip_gen (n : Nat) (hn : 0 < n) (v : Nat) :
    Gen.fracToVoxel (Gen.voxelToFrac (v : ℚ) (n : ℚ)) (n : ℚ) = v := by
  have hv : (v : ℚ) = ((v : Int) : ℚ) := (Int.cast_natCast v).symm
  rw [hv, voxelToFrac_eq_model, fracToVoxel_eq_model]
  exact C08.roundtrip n hn v

theorem voxelToFrac_inside (n : Nat) (hn : 0 < n) (v : Nat) :
    (v : ℚ) / n < Gen.voxelToFrac (v : ℚ) (n : ℚ) ∧ Gen.voxelToFrac (v : ℚ) (n : ℚ) < ((v : ℚ) + 1) / n := by
  have h : Gen.voxelToFrac (v : ℚ) (n : ℚ) = ((v : ℚ) + 1 / 2) / n := by
    unfold Gen.voxelToFrac
    ring
  rw [h]
  exact Scalar.centre_in_cell _ (Nat.cast_pos.mpr hn)

theorem voxelSize_bounds (L res : ℚ) (n : Nat) (hn : 0 < n) (hres : 0 < res)
    (hlo : (n : ℚ) * res ≤ L) (hhi : L < ((n : ℚ) + 1) * res) :
    res ≤ Gen.voxelSize L n ∧ Gen.voxelSize L n < 2 * res := by
  have h : Gen.voxelSize L n = L / n := by
    unfold Gen.voxelSize
    ring
  rw [h]
  exact C08.voxel_size_bounds L res n hn hres hlo hhi

theorem nEdges_eq (L res : ℚ) (h : 0 ≤ ⌊L / res⌋) : Gen.nEdges L res = 1 + ⌊L / res⌋ := by
  have hf : (L / res).floor = ⌊L / res⌋ := rfl
  unfold Gen.nEdges
  rw [hf]
  exact (congrArg G.truncZ (by push_cast; ring)).trans (Scalar.truncZ_intCast (n := 1 + ⌊L / res⌋) (by omega))

/-- number of voxels along an axis = number of edges − 1 = ⌊L / resolution⌋ -/
theorem nEdges_spec (L res : ℚ) (hL : 0 ≤ L) (hres : 0 < res) : Gen.nEdges L res - 1 = ⌊L / res⌋ := by
  have h0 : 0 ≤ ⌊L / res⌋ := Int.floor_nonneg.mpr (div_nonneg hL (le_of_lt hres))
  rw [nEdges_eq L res h0]
  ring

/-- `n = nEdges − 1` meets the hypotheses of `voxelSize_bounds`, hence res ≤ voxel edge < 2 res -/
theorem nEdges_bracket (L res : ℚ) (hL : 0 ≤ L) (hres : 0 < res) :
    ((Gen.nEdges L res - 1 : Int) : ℚ) * res ≤ L ∧ L < (((Gen.nEdges L res - 1 : Int) : ℚ) + 1) * res := by
  rw [nEdges_spec L res hL hres]
  have h1 := Int.floor_le (L / res)
  have h2 := Int.lt_floor_add_one (L / res)
  constructor
  · exact (le_div_iff₀ hres).mp h1
  · exact (div_lt_iff₀ hres).mp h2

/-- at least one voxel as soon as the resolution does not exceed the axis length -/
theorem nEdges_ge_two (L res : ℚ) (hres : 0 < res) (h : res ≤ L) : 2 ≤ Gen.nEdges L res := by
  have h1 : (1 : ℚ) ≤ L / res := (le_div_iff₀ hres).mpr (by linarith)
  have h2 : (1 : ℤ) ≤ ⌊L / res⌋ := Int.le_floor.mpr (by exact_mod_cast h1)
  rw [nEdges_eq L res (by omega)]
  omega

end G.C08Gen
