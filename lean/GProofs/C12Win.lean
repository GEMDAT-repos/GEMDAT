import GGen.FormulasC12
import Mathlib.Data.Rat.Floor
import Mathlib.Tactic.Linarith
import Mathlib.Tactic.Ring
/-!
# C12 — obligations on the formula slice regenerated from /repo's source (GGen/FormulasC12.lean):
the correlation window of `Jumps.collective` and what is handed to `Collective`.
-/
namespace G.C12Win
open G

/-- `ceilZ` is Mathlib's ceiling (by unfolding) -/
theorem ceilZ_spec (x : ℚ) : x ≤ (ceilZ x : ℚ) ∧ (ceilZ x : ℚ) < x + 1 :=
  ⟨Int.le_ceil x, Int.ceil_lt_add_one x⟩

/-- the window is the smallest whole number of time steps covering one attempt period 1/ν -/
theorem maxSteps_spec (f dt : ℚ) (hf : 0 < f) (hdt : 0 < dt) :
    1 / f ≤ (Gen.maxSteps f dt : ℚ) * dt ∧ ((Gen.maxSteps f dt : ℚ) - 1) * dt < 1 / f := by
  have hfd : 0 < f * dt := mul_pos hf hdt
  -- both facts are stated for any `y` that `ring` identifies with `1 / (f * dt)`, however the generated formula spells it
  have hx : ∀ y : ℚ, y = 1 / (f * dt) → y * dt = 1 / f := by
    intro y hy
    rw [hy]
    field_simp
  have key : ∀ y : ℚ, y = 1 / (f * dt) →
      1 / f ≤ (ceilZ y : ℚ) * dt ∧ ((ceilZ y : ℚ) - 1) * dt < 1 / f := by
    intro y hy
    obtain ⟨h1, h2⟩ := ceilZ_spec y
    rw [← hx y hy]
    constructor
    · exact mul_le_mul_of_nonneg_right h1 hdt.le
    · exact mul_lt_mul_of_pos_right (by linarith) hdt
  unfold Gen.maxSteps
  exact key _ (by ring)

theorem maxSteps_pos (f dt : ℚ) (hf : 0 < f) (hdt : 0 < dt) : 1 ≤ Gen.maxSteps f dt := by
  have h := lt_of_lt_of_le (one_div_pos.2 hf) (maxSteps_spec f dt hf hdt).1
  exact Int.cast_pos.1 ((mul_pos_iff_of_pos_right hdt).1 h)

example : Gen.maxSteps (1 / 10) 2 = 5 := by decide +kernel
example : Gen.maxSteps (1 / 11) 2 = 6 := by decide +kernel

/-- site distances of the collective analysis are minimum-image distances of the SIMULATION cell -/
theorem collective_uses_simulation_cell : Gen.collectiveUsesSimulationCell = true := by
  rfl

theorem collective_forwards_arguments : Gen.collectiveForwardsArguments = true := by
  rfl

end G.C12Win
