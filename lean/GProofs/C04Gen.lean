import GGen.JumpStep
import GProofs.Machine
/-!
# C04 — the jump state machine REGENERATED from the source refines the hand-written model

`G.Gen.jumpStep` is the body of the `iterrows` loop of `_generic_transitions_to_jumps`, rewritten from the source on
every check run.  It and the hand-written `G.Jumps.step` compute the same thing — so the theorems about `step` are
about what the code says NOW; a change of the loop body that alters its behaviour breaks `jumpStep_refines`.

The proof runs the generated body symbolically, block by block, always by `simp only [jumpStep, …]` with
the tests that are already decided: that is indifferent to how the translator spells the body (local names,
`and` instead of nested `if`).  Evaluating block 1 first keeps the terms small: the `do` block has three join
points, and unfolded all at once it is a tree of 60 leaves.
-/
namespace G.C04Gen
open G.Gen G.Events G.Jumps G.C19 G.C04

/-- the Series the loop sees for a model event (after `events['stop time'] = events['time'] + 1`) -/
def rowOf (atom : Int) (e : Event) : Row := ⟨atom, e.s0, e.s1, e.i0, e.i1, (e.t : Int), (e.t : Int) + 1⟩

def toJump (r : Row) : Jump := ⟨r.start_site, r.destination_site, r.start_time.toNat, r.stop_time.toNat⟩

def NonNeg (r : Row) : Prop := 0 ≤ r.start_time ∧ 0 ≤ r.stop_time

def Refines (atom : Int) (g : Option Row × Option Row × List Row) (m : St) : Prop :=
  g.1 = m.frm.map (rowOf atom) ∧ g.2.1.map toJump = m.cand ∧ g.2.2.map toJump = m.out ∧
    ∀ r, g.2.1 = some r → NonNeg r

theorem jumpStep_commit (mr : Int) (F : Option Row) (c : Row) (O : List Row) (R : Row)
    (h : R.start_time - c.start_time ≥ mr) : jumpStep mr F (some c) O R = jumpStep mr F none (O ++ [c]) R := by
  simp only [jumpStep, if_pos h]

theorem jumpStep_drop (mr : Int) (F : Option Row) (c : Row) (O : List Row) (R : Row)
    (h : ¬ R.start_time - c.start_time ≥ mr) (hd : c.destination_site ≠ R.destination_site) :
    jumpStep mr F (some c) O R = jumpStep mr F none O R := by
  simp only [jumpStep, if_neg h, if_pos hd]

/-- blocks 2–3 as a decision tree, against `blk23b`.  The tests are written on the events; on `rowOf` rows they
are the generated tests by unfolding, which is how `refines_settled` meets them.  Here the data are compared. -/
theorem refines_tree (atom : Int) (f e : Event) (C : Option Row) (O : List Row) (hn : ∀ c, C = some c → NonNeg c) :
    Refines atom
      (if e.s1 = f.s0 then (none, none, O)
       else if e.i1 ≠ -1 then
         (none, none, O ++ [{ rowOf atom e with start_site := f.s0, start_time := f.t }])
       else if e.s1 ≠ f.s1 then
         (none, some { rowOf atom e with start_site := f.s0, start_time := f.t }, O)
       else (some (rowOf atom f), C, O))
      (blk23b (some f) (C.map toJump) (O.map toJump) e) := by
  have hj : toJump { rowOf atom e with start_site := f.s0, start_time := f.t } = mkJ f e :=
    congrArg (Jump.mk f.s0 e.s1 f.t) Int.toNat_natCast_add_one
  by_cases a1 : e.s1 = f.s0
  · rw [blk23b_back a1, if_pos a1]; exact ⟨rfl, rfl, rfl, fun _ h => nomatch h⟩
  · rw [if_neg a1]
    by_cases a2 : e.i1 ≠ -1
    · rw [blk23b_emit a1 a2, if_pos a2]
      exact ⟨rfl, rfl, by rw [← hj]; exact List.map_append, fun _ h => nomatch h⟩
    · rw [if_neg a2]
      by_cases a3 : e.s1 ≠ f.s1
      · rw [blk23b_propose a1 a2 a3, if_pos a3]
        exact ⟨rfl, congrArg some hj, rfl, fun r h => Option.some.inj h ▸
          ⟨Int.natCast_nonneg _, Int.le_add_one (Int.natCast_nonneg _)⟩⟩
      · rw [blk23b_hold a1 a2 a3, if_neg a3]; exact ⟨rfl, rfl, rfl, hn⟩

/-- the `fromevent` test and blocks 2–3, from a candidate that block 1 leaves alone -/
theorem refines_settled (mr : Int) (atom : Int) (frm : Option Event) (C : Option Row) (O : List Row) (e : Event)
    (hC : ∀ c, C = some c → NonNeg c ∧ ¬ (e.t : Int) - c.start_time ≥ mr ∧ c.destination_site = e.s1) :
    Refines atom (jumpStep mr (frm.map (rowOf atom)) C O (rowOf atom e))
      (blk23b (if e.s0 ≠ -1 ∧ e.s0 ≠ e.s1 then some e else frm) (C.map toJump) (O.map toJump) e) := by
  have hn : ∀ c, C = some c → NonNeg c := fun c h => (hC c h).1
  -- the tests of block 1 and of the `fromevent` update, as `simp only` meets them in the generated body
  have k1 : ∀ c, C = some c → ((rowOf atom e).start_time - c.start_time ≥ mr) = False :=
    fun c h => eq_false (hC c h).2.1
  have k2 : ∀ c, C = some c → (c.destination_site ≠ (rowOf atom e).destination_site) = False :=
    fun c h => eq_false (not_not.mpr (hC c h).2.2)
  have k3 : ((rowOf atom e).start_site ≠ -1 ∧ (rowOf atom e).start_site ≠ (rowOf atom e).destination_site)
      = (e.s0 ≠ -1 ∧ e.s0 ≠ e.s1) := rfl
  cases C <;> simp only [jumpStep, Id.run, pure, ← ite_and, k1, k2, k3, if_false]
  all_goals
    by_cases hnew : e.s0 ≠ -1 ∧ e.s0 ≠ e.s1
    · rw [if_pos hnew, if_pos hnew]
      exact refines_tree atom e e _ O hn
    · rw [if_neg hnew, if_neg hnew]
      cases frm with
      | none => exact ⟨rfl, rfl, rfl, hn⟩
      | some f => exact refines_tree atom f e _ O hn

/-- **C04 (generated = model), one iteration**: started in related states, the generated loop body
and the model step end in related states. -/
theorem jumpStep_refines (mr : Int) (atom : Int) (frm : Option Event) (candR : Option Row) (outR : List Row) (e : Event)
    (hc : ∀ r, candR = some r → NonNeg r) :
    let g := jumpStep mr (frm.map (rowOf atom)) candR outR (rowOf atom e)
    let m := step mr ⟨frm, candR.map toJump, outR.map toJump⟩ e
    g.1 = m.frm.map (rowOf atom) ∧ g.2.1.map toJump = m.cand ∧ g.2.2.map toJump = m.out ∧
    (∀ r, g.2.1 = some r → NonNeg r) := by
  show Refines atom _ (step mr _ e)
  rw [step_eq]
  cases candR with
  | none => exact refines_settled mr atom frm none outR e (fun _ h => nomatch h)
  | some c =>
    have h0 : ((toJump c).t0 : Int) = c.start_time := Int.toNat_of_nonneg (hc c rfl).1
    rw [Option.map_some]
    by_cases h1 : (e.t : Int) - c.start_time ≥ mr
    · rw [jumpStep_commit _ _ _ _ _ h1, blk1_commit _ _ _ _ (h0 ▸ h1), ← List.map_singleton, ← List.map_append]
      exact refines_settled mr atom frm none _ e (fun _ h => nomatch h)
    · by_cases h2 : c.destination_site ≠ e.s1
      · rw [jumpStep_drop _ _ _ _ _ h1 h2, blk1_drop _ _ _ _ (h0 ▸ h1) h2]
        exact refines_settled mr atom frm none _ e (fun _ h => nomatch h)
      · rw [blk1_keep _ _ _ _ (h0 ▸ h1) h2]
        exact refines_settled mr atom frm (some c) outR e (fun _ h => Option.some.inj h ▸ ⟨hc c rfl, h1, not_not.mp h2⟩)

/-- the generated loop over the rows of one atom -/
def runGen (mr : Int) (atom : Int) : Option Row × Option Row × List Row → List Event → Option Row × Option Row × List Row
  | s, [] => s
  | s, e :: es => runGen mr atom (jumpStep mr s.1 s.2.1 s.2.2 (rowOf atom e)) es

theorem runGen_eq_foldl (mr : Int) (atom : Int) (es : List Event) :
    ∀ s, runGen mr atom s es = es.foldl (fun s e => jumpStep mr s.1 s.2.1 s.2.2 (rowOf atom e)) s := by
  induction es with
  | nil => intro s; rfl
  | cons e es ih => intro s; exact ih _

/-- **C04 (generated = model), whole run**: the jump table the generated code builds for an atom is
the model's jump table. -/
theorem runGen_refines (mr : Int) (atom : Int) (es : List Event) :
    (runGen mr atom (none, none, []) es).2.2.map toJump = (run mr St.init es).out := by
  rw [runGen_eq_foldl]
  refine (List.foldl_rel (r := Refines atom) ⟨rfl, rfl, rfl, by intro r h; cases h⟩ ?_).2.2.1
  rintro e - g m ⟨h1, h2, h3, hc⟩
  have := jumpStep_refines mr atom m.frm g.2.1 g.2.2 e hc
  rwa [← h1, h2, h3] at this

example :
    (runGen 0 7 (none, none, []) (eventsAlgo [0, -1, 1, 1, -1, 2] [0, -1, 1, 1, -1, 2])).2.2.map toJump
      = [⟨0, 1, 0, 2⟩, ⟨1, 2, 3, 5⟩] := by
  decide

end G.C04Gen
