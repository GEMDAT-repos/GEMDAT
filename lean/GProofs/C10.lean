import GModel.Path
import GGen.Moves
import GProofs.Scalar
import Mathlib.Tactic.Linarith
import Mathlib.Tactic.Ring
/-!
# C10 — optimal and percolating paths are valid, correctly reported and cost-minimal

Optimality is established by *certificate*: a potential that passes the edge-by-edge check `Grid.feasible` is a lower
bound for the cost of EVERY valid path, on a grid of any size — so a returned path whose cost equals the potential of
its end point is cost-minimal (no shortest-path algorithm has to be trusted).

The file has two halves that share this idea but no lemma: `section abstract` for an arbitrary graph with a total
potential, the `feasible_*` theorems for what the executable check accepts (`Grid.validPath`, potentials that are `none`
on unreached voxels, the three criteria at once).  Nothing relates `IsWalk` to `validPath`, `cost` to `edgeCost` or
`bottleneck` (a right fold) to `maxEnergy` (a left fold).
-/
namespace G.C10
open G G.Path

/-- **generated obligation**: the face-move table in `path.py` is the six unit vectors, each once -/
theorem movesFace_spec :
    G.Gen.movesFace.length = 6 ∧ G.Gen.movesFace.Nodup ∧ ∀ m ∈ unit6, m ∈ G.Gen.movesFace := by
  decide

/-- **generated obligation**: face + diagonal tables in `path.py` are all 26 non-zero vectors of
{−1,0,1}³ (face, edge AND corner neighbours), each once -/
theorem movesAll_spec :
    (G.Gen.movesFace ++ G.Gen.movesDiag).length = 26 ∧ (G.Gen.movesFace ++ G.Gen.movesDiag).Nodup ∧
    ∀ m ∈ cube26, m ∈ G.Gen.movesFace ++ G.Gen.movesDiag := by
  decide +kernel

theorem moves_neg_closed :
    (∀ m ∈ unit6, (-m.1, -m.2.1, -m.2.2) ∈ unit6) ∧ (∀ m ∈ cube26, (-m.1, -m.2.1, -m.2.2) ∈ cube26) := by
  decide +kernel

section abstract
variable {V : Type}

def IsWalk (edge : V → V → Prop) : List V → Prop
  | [] => True
  | [_] => True
  | u :: v :: rest => edge u v ∧ IsWalk edge (v :: rest)

def cost (w : V → V → ℚ) : List V → ℚ
  | u :: v :: rest => w u v + cost w (v :: rest)
  | _ => 0

def bottleneck (E : V → ℚ) : List V → ℚ
  | [] => 0
  | [u] => E u
  | u :: rest => max (E u) (bottleneck E rest)

theorem potential_le_cost (edge : V → V → Prop) (w : V → V → ℚ) (d : V → ℚ)
    (hfeas : ∀ u v, edge u v → d v ≤ d u + w u v) (p : List V) (u : V) (hw : IsWalk edge (u :: p)) :
    d ((u :: p).getLast (by simp)) ≤ d u + cost w (u :: p) := by
  induction p generalizing u with
  | nil => simp [cost]
  | cons v rest ih =>
    have h1 := ih v hw.2
    have h2 := hfeas u v hw.1
    rw [List.getLast_cons_cons]
    simp only [cost]
    linarith

/-- **C10 (certificate)**: a feasible potential that is tight on the returned path proves that no
other walk between the same end points is cheaper. -/
theorem potential_optimal (edge : V → V → Prop) (w : V → V → ℚ) (d : V → ℚ)
    (src : V) (pstar p : List V)
    (hfeas : ∀ u v, edge u v → d v ≤ d u + w u v)
    (hsrc : d src = 0)
    (hp : IsWalk edge (src :: p))
    (hsame : (src :: p).getLast (by simp) = (src :: pstar).getLast (by simp))
    (htight : cost w (src :: pstar) = d ((src :: pstar).getLast (by simp))) :
    cost w (src :: pstar) ≤ cost w (src :: p) := by
  have h := potential_le_cost edge w d hfeas p src hp
  rw [hsame, hsrc] at h
  linarith

theorem head_le_bottleneck (E : V → ℚ) (a : V) (q : List V) : E a ≤ bottleneck E (a :: q) := by
  cases q <;> simp [bottleneck]

theorem bottleneck_cons_cons (E : V → ℚ) (a b : V) (q : List V) :
    bottleneck E (a :: b :: q) = max (E a) (bottleneck E (b :: q)) := rfl

theorem bottleneck_le_max (edge : V → V → Prop) (E : V → ℚ) (d : V → ℚ)
    (hfeas : ∀ u v, edge u v → d v ≤ max (d u) (E v)) (q : List V) (a : V) (hw : IsWalk edge (a :: q)) :
    d ((a :: q).getLast (by simp)) ≤ max (d a) (bottleneck E (a :: q)) := by
  induction q generalizing a with
  | nil => simp [bottleneck]
  | cons b q ih =>
    refine le_trans (ih b hw.2) (max_le ?_ (le_trans (le_max_right _ _) (le_max_right _ _)))
    -- `d b ≤ max (d a) (E b)`, and `E b` is met on the rest of the walk
    exact le_trans (hfeas a b hw.1)
      (max_le_max_left _ (le_trans (head_le_bottleneck E b q) (le_max_right _ _)))

/-- bottleneck version: the potential of the end point is at most the largest voxel energy on any walk -/
theorem bottleneck_le (edge : V → V → Prop) (E : V → ℚ) (d : V → ℚ)
    (hfeas : ∀ u v, edge u v → d v ≤ max (d u) (E v)) :
    ∀ (p : List V) (u : V), IsWalk edge (u :: p) → d u ≤ E u →
      d ((u :: p).getLast (by simp)) ≤ bottleneck E (u :: p) := fun p u hw hu =>
  le_trans (bottleneck_le_max edge E d hfeas p u hw) (max_le (le_trans hu (head_le_bottleneck E u p)) (le_refl _))

/-- **C10 (reported total energy)**: the edge-weight sum of a walk is its node-energy sum minus
half the end-point energies, so between fixed end points the path of least edge weight is the one of
least reported `total_energy`. -/
theorem edge_sum_eq_node_sum (E : V → ℚ) (u : V) (p : List V) :
    cost (fun a b => (E a + E b) / 2) (u :: p)
      = ((u :: p).map E).sum - (E u + E ((u :: p).getLast (by simp))) / 2 := by
  induction p generalizing u with
  | nil => simp [cost]
  | cons v rest ih =>
    rw [List.getLast_cons_cons]
    have h := ih v
    simp only [cost, List.map_cons, List.sum_cons] at h ⊢
    rw [h]
    ring

end abstract

/-- cost of a path under a criterion, as the harness evaluates it on the returned path -/
def pathCost (g : Grid) : Crit → List Vox → ℚ
  | .sum, p => g.edgeCost p
  | .steps, p => (p.length - 1 : Nat)
  | .bottleneck, p => g.maxEnergy p

theorem pmod_cast (a : Int) (n : Nat) (hn : 0 < n) : ((pmod a n : Nat) : Int) = a % (n : Int) :=
  Int.toNat_of_nonneg (Int.emod_nonneg _ (by omega))

theorem emod_spec (a n : Int) (hn : 0 < n) : 0 ≤ a % n ∧ a % n < n ∧ n ∣ (a - a % n) :=
  ⟨Int.emod_nonneg _ (Int.ne_of_gt hn), Int.emod_lt_of_pos _ hn, Int.dvd_self_sub_emod⟩

theorem pmod_spec (a : Int) (n : Nat) (hn : 0 < n) :
    0 ≤ ((pmod a n : Nat) : Int) ∧ ((pmod a n : Nat) : Int) < n ∧ (n : Int) ∣ (a - (pmod a n : Nat)) := by
  rw [pmod_cast a n hn]
  exact emod_spec a n (Int.natCast_pos.2 hn)

theorem pmod_back (a m : Int) (n : Nat) (h0 : 0 ≤ a) (h1 : a < n) :
    ((pmod (((pmod (a + m) n : Nat) : Int) + -m) n : Nat) : Int) = a := by
  have hn : 0 < n := by omega
  rw [pmod_cast _ _ hn, pmod_cast _ _ hn, Int.emod_add_emod, Int.add_neg_cancel_right, Int.emod_eq_of_lt h0 h1]

theorem inside_iff (g : Grid) (v : Vox) :
    g.inside v = true ↔
      (0 ≤ v.1 ∧ v.1 < g.nx) ∧ (0 ≤ v.2.1 ∧ v.2.1 < g.ny) ∧ (0 ≤ v.2.2 ∧ v.2.2 < g.nz) := by
  simp only [Grid.inside, Bool.and_eq_true, decide_eq_true_eq, and_assoc]

theorem isNode_inside (g : Grid) (v : Vox) (h : g.isNode v = true) : g.inside v = true := by
  simp only [Grid.isNode, Bool.and_eq_true] at h
  exact h.1.1

theorem pair_spec {a b m n : Nat} (ha : a < m) (hb : b < n) :
    (a * n + b) / n = a ∧ (a * n + b) % n = b ∧ a * n + b < m * n := by
  obtain ⟨hd, hm⟩ := (Nat.div_mod_unique (Nat.zero_lt_of_lt hb)).2 ⟨by rw [Nat.mul_comm n a, Nat.add_comm], hb⟩
  refine ⟨hd, hm, ?_⟩
  calc a * n + b < a * n + n := Nat.add_lt_add_left hb _
    _ = (a + 1) * n := (Nat.succ_mul a n).symm
    _ ≤ m * n := Nat.mul_le_mul_right n ha

theorem vox_idx (g : Grid) (v : Vox) (h : g.inside v = true) :
    g.vox (g.idx v) = v ∧ g.idx v < g.size := by
  obtain ⟨⟨a0, a1⟩, ⟨b0, b1⟩, ⟨c0, c1⟩⟩ := (inside_iff g v).mp h
  obtain ⟨k1, k2, k3⟩ := pair_spec ((Int.toNat_lt a0).2 a1) ((Int.toNat_lt b0).2 b1)
  obtain ⟨l1, l2, l3⟩ := pair_spec k3 ((Int.toNat_lt c0).2 c1)
  refine ⟨?_, l3⟩
  unfold Grid.vox Grid.idx
  rw [l1, l2, k1, k2, Int.toNat_of_nonneg a0, Int.toNat_of_nonneg b0, Int.toNat_of_nonneg c0]

theorem step_neg (g : Grid) (v m : Vox) (h : g.inside v = true) :
    g.step (g.step v m) (-m.1, -m.2.1, -m.2.2) = v := by
  obtain ⟨⟨a0, a1⟩, ⟨b0, b1⟩, ⟨c0, c1⟩⟩ := (inside_iff g v).mp h
  exact Prod.ext (pmod_back v.1 m.1 g.nx a0 a1)
    (Prod.ext (pmod_back v.2.1 m.2.1 g.ny b0 b1) (pmod_back v.2.2 m.2.2 g.nz c0 c1))

theorem moves_neg (g : Grid) (m : Vox) (hm : m ∈ g.moves) : (-m.1, -m.2.1, -m.2.2) ∈ g.moves := by
  unfold Grid.moves at hm ⊢
  by_cases hd : g.diag = true
  · rw [if_pos hd] at hm ⊢; exact moves_neg_closed.2 m hm
  · rw [if_neg hd] at hm ⊢; exact moves_neg_closed.1 m hm

/-- every edge is witnessed by a forward step (the move sets are closed under negation) -/
theorem adj_forward (g : Grid) (u v : Vox) (h : g.adj u v = true) :
    ∃ m ∈ g.moves, g.step u m = v ∧ g.isNode u = true ∧ g.isNode v = true := by
  simp only [Grid.adj, Bool.and_eq_true, Bool.or_eq_true, List.any_eq_true, beq_iff_eq] at h
  obtain ⟨⟨hu, hv⟩, ⟨m, hm, e⟩ | ⟨m, hm, e⟩⟩ := h
  · exact ⟨m, hm, e, hu, hv⟩
  · exact ⟨_, moves_neg g m hm, e ▸ step_neg g v m (isNode_inside g v hv), hu, hv⟩

theorem feasible_edge (g : Grid) (c : Crit) (d : Array (Option ℚ)) (hf : g.feasible c d = true)
    {u v : Vox} (huv : g.adj u v = true) {du : ℚ} (hdu : d.getD (g.idx u) none = some du) :
    ∃ dv, d.getD (g.idx v) none = some dv ∧ dv ≤ g.extend c du u v := by
  obtain ⟨m, hm, rfl, hu, hv⟩ := adj_forward g u v huv
  obtain ⟨e1, e2⟩ := vox_idx g u (isNode_inside g u hu)
  have h := List.all_eq_true.1 hf (g.idx u) (List.mem_range.2 e2)
  simp only [hdu, e1] at h
  have h' := List.all_eq_true.1 h m hm
  simp only [hv, if_true] at h'
  split at h'
  next => cases h'
  next dv hdv => exact ⟨dv, hdv, of_decide_eq_true h'⟩

theorem foldl_max_mono (E : Vox → ℚ) (p : List Vox) (a b : ℚ) (h : a ≤ b) :
    p.foldl (fun m v => max m (E v)) a ≤ p.foldl (fun m v => max m (E v)) b := by
  induction p generalizing a b with
  | nil => exact h
  | cons v rest ih => exact ih _ _ (max_le_max_right _ h)

def accBound (g : Grid) : Crit → ℚ → Vox → List Vox → ℚ
  | .sum, du, u, p => du + g.edgeCost (u :: p)
  | .steps, du, _, p => du + (p.length : ℚ)
  | .bottleneck, du, _, p => p.foldl (fun m v => max m (g.energy v)) du

/-- the induction of `potential_le_cost` / `bottleneck_le_max` once more, along a `Grid.validPath` with the
potential known to be defined at the start only -/
theorem feasible_acc (g : Grid) (c : Crit) (d : Array (Option ℚ)) (hf : g.feasible c d = true)
    (p : List Vox) (u : Vox) (du : ℚ) (hdu : d.getD (g.idx u) none = some du)
    (hp : g.validPath (u :: p) = true) :
    ∃ x, d.getD (g.idx ((u :: p).getLast (by simp))) none = some x ∧ x ≤ accBound g c du u p := by
  induction p generalizing u du with
  | nil =>
    refine ⟨du, hdu, ?_⟩
    cases c <;> simp [accBound, Grid.edgeCost]
  | cons v rest ih =>
    simp only [Grid.validPath, Bool.and_eq_true] at hp
    obtain ⟨dv, hdv, hle⟩ := feasible_edge g c d hf hp.1 hdu
    obtain ⟨x, hx, hxle⟩ := ih v dv hdv hp.2
    refine ⟨x, hx, le_trans hxle ?_⟩
    cases c with
    | sum =>
      simp only [accBound, Grid.extend, Grid.edgeCost] at hle ⊢
      linarith
    | steps =>
      simp only [accBound, Grid.extend, List.length_cons] at hle ⊢
      push_cast
      linarith
    | bottleneck => exact foldl_max_mono g.energy rest _ _ hle

/-- **C10 (the executable check is a certificate)**: a potential that `Grid.feasible` accepts is defined at the end
point of every valid path from `src`, and is there a lower bound of the path's cost.
`hsz` is not needed, every array access being `getD`. -/
theorem feasible_lower_bound (g : Grid) (c : Crit) (d : Array (Option ℚ)) (hsz : d.size = g.size)
    (hf : g.feasible c d = true) (src : Vox)
    (hsrc : d.getD (g.idx src) none = some (g.initial c src))
    (p : List Vox) (hp : g.validPath (src :: p) = true) :
    ∃ x, d.getD (g.idx ((src :: p).getLast (by simp))) none = some x ∧ x ≤ pathCost g c (src :: p) := by
  obtain ⟨x, hx, hle⟩ := feasible_acc g c d hf p src _ hsrc hp
  refine ⟨x, hx, le_trans hle (le_of_eq ?_)⟩
  cases c with
  | sum => exact zero_add _
  | steps => exact zero_add _
  | bottleneck => rfl

/-- **C10 (wrapped coordinates)**: each wrapped coordinate lies inside the grid and is congruent to
the original one modulo that axis' dimension. -/
theorem wrapSite_spec (dims : Nat × Nat × Nat) (hx : 0 < dims.1) (hy : 0 < dims.2.1) (hz : 0 < dims.2.2) (v : Vox) :
    let w := wrapSite dims v
    (0 ≤ w.1 ∧ w.1 < dims.1 ∧ (dims.1 : Int) ∣ (v.1 - w.1)) ∧
    (0 ≤ w.2.1 ∧ w.2.1 < dims.2.1 ∧ (dims.2.1 : Int) ∣ (v.2.1 - w.2.1)) ∧
    (0 ≤ w.2.2 ∧ w.2.2 < dims.2.2 ∧ (dims.2.2 : Int) ∣ (v.2.2 - w.2.2)) :=
  ⟨pmod_spec v.1 dims.1 hx, pmod_spec v.2.1 dims.2.1 hy, pmod_spec v.2.2 dims.2.2 hz⟩

theorem intCentre_in_unit (w n : Int) (hw : 0 ≤ w) (hn : w < n) :
    0 < ((w : ℚ) + 1 / 2) / (n : ℚ) ∧ ((w : ℚ) + 1 / 2) / (n : ℚ) < 1 := by
  refine Scalar.centre_in_unit (Int.cast_nonneg hw) ?_
  rw [← Int.cast_one, ← Int.cast_add]
  exact Int.cast_le.2 (Int.add_one_le_of_lt hn)

theorem fracCoord_in_unit (a : Int) (n : Nat) (hn : 0 < n) :
    0 < ((((pmod a n : Nat) : Int) : ℚ) + 1/2) / (n : ℚ) ∧ ((((pmod a n : Nat) : Int) : ℚ) + 1/2) / (n : ℚ) < 1 := by
  obtain ⟨h0, h1, _⟩ := pmod_spec a n hn
  rw [← Int.cast_natCast n]
  exact intCentre_in_unit _ _ h0 h1

theorem fracSite_in_unit (dims : Nat × Nat × Nat) (hx : 0 < dims.1) (hy : 0 < dims.2.1) (hz : 0 < dims.2.2) (v : Vox) :
    let f := fracSite dims v
    0 < f.x ∧ f.x < 1 ∧ 0 < f.y ∧ f.y < 1 ∧ 0 < f.z ∧ f.z < 1 :=
  have hx := fracCoord_in_unit v.1 dims.1 hx
  have hy := fracCoord_in_unit v.2.1 dims.2.1 hy
  have hz := fracCoord_in_unit v.2.2 dims.2.2 hz
  ⟨hx.1, hx.2, hy.1, hy.2, hz.1, hz.2⟩

/-- defect D6 (repaired): wrapping y and z by the x dimension leaves the grid or hits the wrong voxel -/
theorem wrapSiteXdim_counterexample :
    wrapSiteXdim (5, 4, 6) (4, 5, 5) = (4, 0, 0) ∧ wrapSite (5, 4, 6) (4, 5, 5) = (4, 1, 5) := by
  decide

/-- a 3×1×1 ring where the cheapest route goes through the periodic boundary -/
example :
    let g : Grid := ⟨3, 1, 1, #[1, 5, 2], 10, false⟩
    let r := g.bellmanFord .sum (0, 0, 0)
    r.2 = true ∧ g.feasible .sum r.1 = true ∧ r.1.getD (g.idx (2, 0, 0)) none = some (3/2) ∧
    g.validPath [(0,0,0), (2,0,0)] = true ∧ g.edgeCost [(0,0,0), (2,0,0)] = 3/2 := by
  decide +kernel

end G.C10
