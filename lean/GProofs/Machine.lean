import GModel.Jumps
import Mathlib.Logic.Function.Basic
/-!
# The event → jump machine, read branch by branch

`step` is `blk1` (settle the pending candidate), the `fromevent` update, then `blk23b`; each has one equation per
branch here, and no other module unfolds `blk1` / `blk23` / `step`.  `step_move`: the machine looks at site labels
only through `=` and `= -1`, and at times only through differences, so it commutes with an injective renaming
of the sites that keeps `-1` together with a shift of all times.
-/
namespace G.C19
open G.Events G.Jumps

/-- blocks 2 + 3 after the `fromevent` update -/
def blk23b (frm : Option Event) (cand : Option Jump) (out : List Jump) (e : Event) : St :=
  match frm with
  | none => ⟨none, cand, out⟩
  | some f =>
    if e.s1 = f.s0 then ⟨none, none, out⟩
    else if e.i1 ≠ -1 then ⟨none, none, out ++ [⟨f.s0, e.s1, f.t, e.t + 1⟩]⟩
    else if e.s1 ≠ f.s1 then ⟨none, some ⟨f.s0, e.s1, f.t, e.t + 1⟩, out⟩
    else ⟨some f, cand, out⟩

theorem blk23_eq (frm0 : Option Event) (cand : Option Jump) (out : List Jump) (e : Event) :
    blk23 frm0 cand out e
      = blk23b (if e.s0 ≠ -1 ∧ e.s0 ≠ e.s1 then some e else frm0) cand out e := rfl

end G.C19

namespace G.C04
open G.Events G.Jumps

theorem blk1_none (mr : Int) (out : List Jump) (e : Event) : blk1 mr none out e = (none, out) := rfl
theorem blk1_commit (mr : Int) (c : Jump) (out : List Jump) (e : Event)
    (h : (e.t : Int) - (c.t0 : Int) ≥ mr) : blk1 mr (some c) out e = (none, out ++ [c]) := if_pos h
theorem blk1_drop (mr : Int) (c : Jump) (out : List Jump) (e : Event)
    (h : ¬ (e.t : Int) - (c.t0 : Int) ≥ mr) (hd : c.d ≠ e.s1) : blk1 mr (some c) out e = (none, out) :=
  (if_neg h).trans (if_pos hd)
theorem blk1_keep (mr : Int) (c : Jump) (out : List Jump) (e : Event)
    (h : ¬ (e.t : Int) - (c.t0 : Int) ≥ mr) (hd : ¬ c.d ≠ e.s1) : blk1 mr (some c) out e = (some c, out) :=
  (if_neg h).trans (if_neg hd)

end G.C04

namespace G.Jumps
open G.Events G.C19 G.C04

/-- the jump blocks 2–3 build from the pending leave event `f` when `e` arrives -/
abbrev mkJ (f e : Event) : Jump := ⟨f.s0, e.s1, f.t, e.t + 1⟩

theorem step_eq (mr : Int) (st : St) (e : Event) :
    step mr st e = blk23b (if e.s0 ≠ -1 ∧ e.s0 ≠ e.s1 then some e else st.frm)
      (blk1 mr st.cand st.out e).1 (blk1 mr st.cand st.out e).2 e := rfl

theorem blk23b_none (cand : Option Jump) (out : List Jump) (e : Event) :
    blk23b none cand out e = ⟨none, cand, out⟩ := rfl
theorem blk23b_back {f e : Event} {cand : Option Jump} {out : List Jump} (h1 : e.s1 = f.s0) :
    blk23b (some f) cand out e = ⟨none, none, out⟩ := if_pos h1
theorem blk23b_emit {f e : Event} {cand : Option Jump} {out : List Jump} (h1 : ¬ e.s1 = f.s0) (h2 : e.i1 ≠ -1) :
    blk23b (some f) cand out e = ⟨none, none, out ++ [mkJ f e]⟩ := (if_neg h1).trans (if_pos h2)
theorem blk23b_propose {f e : Event} {cand : Option Jump} {out : List Jump} (h1 : ¬ e.s1 = f.s0) (h2 : ¬ e.i1 ≠ -1)
    (h3 : e.s1 ≠ f.s1) : blk23b (some f) cand out e = ⟨none, some (mkJ f e), out⟩ :=
  (if_neg h1).trans ((if_neg h2).trans (if_pos h3))
theorem blk23b_hold {f e : Event} {cand : Option Jump} {out : List Jump} (h1 : ¬ e.s1 = f.s0) (h2 : ¬ e.i1 ≠ -1)
    (h3 : ¬ e.s1 ≠ f.s1) : blk23b (some f) cand out e = ⟨some f, cand, out⟩ :=
  (if_neg h1).trans ((if_neg h2).trans (if_neg h3))

theorem blk23b_cases (frm : Option Event) (e : Event) :
    (∃ frm', ∀ c o, blk23b frm c o e = ⟨frm', c, o⟩) ∨ (∀ c o, blk23b frm c o e = ⟨none, none, o⟩) ∨
    (∃ j, ∀ c o, blk23b frm c o e = ⟨none, none, o ++ [j]⟩) ∨ (∃ j, ∀ c o, blk23b frm c o e = ⟨none, some j, o⟩) := by
  cases frm with
  | none => exact .inl ⟨none, fun _ _ => rfl⟩
  | some f =>
    by_cases h1 : e.s1 = f.s0
    · exact .inr (.inl fun _ _ => blk23b_back h1)
    · by_cases h2 : e.i1 ≠ -1
      · exact .inr (.inr (.inl ⟨_, fun _ _ => blk23b_emit h1 h2⟩))
      · by_cases h3 : e.s1 ≠ f.s1
        · exact .inr (.inr (.inr ⟨_, fun _ _ => blk23b_propose h1 h2 h3⟩))
        · exact .inl ⟨_, fun _ _ => blk23b_hold h1 h2 h3⟩

theorem blk1_cases (mr : Int) (cand : Option Jump) (e : Event) :
    (∀ o, blk1 mr cand o e = (cand, o)) ∨ (∀ o, blk1 mr cand o e = (none, o)) ∨
    ∃ c, cand = some c ∧ ∀ o, blk1 mr cand o e = (none, o ++ [c]) := by
  cases cand with
  | none => exact .inl fun _ => rfl
  | some c =>
    by_cases h1 : (e.t : Int) - (c.t0 : Int) ≥ mr
    · exact .inr (.inr ⟨c, rfl, fun _ => blk1_commit _ _ _ _ h1⟩)
    · by_cases h2 : c.d ≠ e.s1
      · exact .inr (.inl fun _ => blk1_drop _ _ _ _ h1 h2)
      · exact .inl fun _ => blk1_keep _ _ _ _ h1 h2

theorem run_cons (mr : Int) (st : St) (e : Event) (es : List Event) :
    run mr st (e :: es) = run mr (step mr st e) es := rfl

theorem run_append (mr : Int) (st : St) (es1 es2 : List Event) :
    run mr st (es1 ++ es2) = run mr (run mr st es1) es2 := List.foldl_append

theorem run_rel {R : St → St → Prop} {mra mrb : Int} (hstep : ∀ a b e, R a b → R (step mra a e) (step mrb b e))
    (es : List Event) {a b : St} (h : R a b) : R (run mra a es) (run mrb b es) :=
  List.foldl_rel h (fun e _ a b => hstep a b e)

theorem run_hom {φ : Event → Event} {Φ : St → St} {mr : Int} (hstep : ∀ st e, step mr (Φ st) (φ e) = Φ (step mr st e))
    (es : List Event) (st : St) : run mr (Φ st) (es.map φ) = Φ (run mr st es) := by
  unfold run
  rw [List.foldl_map]
  exact List.foldl_hom Φ (fun st e => hstep st e)

def _root_.G.Events.Event.move (f : Int → Int) (k : Nat) (e : Event) : Event := ⟨e.t + k, f e.s0, f e.s1, f e.i0, f e.i1⟩
def Jump.move (f : Int → Int) (k : Nat) (j : Jump) : Jump := ⟨f j.o, f j.d, j.t0 + k, j.t1 + k⟩
def St.move (f : Int → Int) (k : Nat) (st : St) : St :=
  ⟨st.frm.map (Event.move f k), st.cand.map (Jump.move f k), st.out.map (Jump.move f k)⟩

variable {f : Int → Int} (hf : Function.Injective f) (k : Nat)
include hf

theorem blk1_move (mr : Int) (cand : Option Jump) (out : List Jump) (e : Event) :
    blk1 mr (cand.map (Jump.move f k)) (out.map (Jump.move f k)) (e.move f k)
      = Prod.map (Option.map (Jump.move f k)) (List.map (Jump.move f k)) (blk1 mr cand out e) := by
  cases cand with
  | none => rfl
  | some c =>
    have ht : (((e.move f k).t : Int) - ((c.move f k).t0 : Int) ≥ mr) ↔ ((e.t : Int) - (c.t0 : Int) ≥ mr) := by
      simp only [Event.move, Jump.move]; omega
    have hd : (c.move f k).d ≠ (e.move f k).s1 ↔ c.d ≠ e.s1 := hf.ne_iff
    -- the same decision tree on both sides: the tests agree, and the map goes into the branches
    simp only [blk1, Option.map_some, ht, hd, apply_ite (Prod.map _ _), Prod.map_apply, Option.map_none,
      List.map_append, List.map_cons, List.map_nil]

theorem blk23b_move (h1 : f (-1) = -1) (frm : Option Event) (cand : Option Jump) (out : List Jump) (e : Event) :
    blk23b (frm.map (Event.move f k)) (cand.map (Jump.move f k)) (out.map (Jump.move f k)) (e.move f k)
      = (blk23b frm cand out e).move f k := by
  cases frm with
  | none => rfl
  | some g =>
    have c1 : (e.move f k).s1 = (g.move f k).s0 ↔ e.s1 = g.s0 := hf.eq_iff
    have c2 : (e.move f k).i1 ≠ -1 ↔ e.i1 ≠ -1 := hf.ne_iff' h1
    have c3 : (e.move f k).s1 ≠ (g.move f k).s1 ↔ e.s1 ≠ g.s1 := hf.ne_iff
    have hj : (mkJ g e).move f k = mkJ (g.move f k) (e.move f k) := by
      simp only [Event.move, Jump.move, Jump.mk.injEq, true_and]; omega
    -- `St.move` goes into the branches first and is unfolded there
    simp only [blk23b, Option.map_some, c1, c2, c3, apply_ite (St.move f k)]
    simp only [St.move, Option.map_none, Option.map_some, List.map_append, List.map_cons, List.map_nil, hj]

theorem step_move (h1 : f (-1) = -1) (mr : Int) (st : St) (e : Event) :
    step mr (st.move f k) (e.move f k) = (step mr st e).move f k := by
  have c : ((e.move f k).s0 ≠ -1 ∧ (e.move f k).s0 ≠ (e.move f k).s1) ↔ (e.s0 ≠ -1 ∧ e.s0 ≠ e.s1) :=
    and_congr (hf.ne_iff' h1) hf.ne_iff
  rw [step_eq, step_eq, ← blk23b_move hf k h1, apply_ite (Option.map (Event.move f k)), if_congr c rfl rfl]
  -- the two sides now differ only in the pair block 1 returns: `blk1_move`, read componentwise
  exact congrArg (fun p => blk23b _ p.1 p.2 _) (blk1_move hf k mr st.cand st.out e)

theorem run_move (h1 : f (-1) = -1) (mr : Int) (es : List Event) (st : St) :
    run mr (st.move f k) (es.map (Event.move f k)) = (run mr st es).move f k :=
  run_hom (step_move hf k h1 mr) es st

end G.Jumps
