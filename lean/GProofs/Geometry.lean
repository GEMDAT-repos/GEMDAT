import GModel.Basic
import GProofs.Scalar
import Mathlib.Tactic.Ring
import Mathlib.Tactic.Linarith
import Mathlib.Tactic.Positivity
/-!
# The certified minimum image

The certificate `m · adj_ii ≤ (K + ½)² · det G` (i = 1, 2, 3) of `minImageSqCert` suffices because
`v_i² · det G ≤ adj_ii · Q v` for positive-definite `G` (`coord_sq_le₁/₂/₃`): an image shorter than the box
minimum `m` has every component inside (−(K+½), K+½), so it lies in the box `[−K, K]³` (`minImage_certified`).
-/
namespace G.V3

theorem add_def (a b : V3) : a + b = ⟨a.x + b.x, a.y + b.y, a.z + b.z⟩ := rfl
theorem sub_def (a b : V3) : a - b = ⟨a.x - b.x, a.y - b.y, a.z - b.z⟩ := rfl
theorem neg_def (a : V3) : -a = ⟨-a.x, -a.y, -a.z⟩ := rfl

end G.V3

namespace G.Geometry

/-- positive definiteness of a symmetric 3×3 matrix (Sylvester, in the three axis orders) -/
def PosDef (G : Sym3) : Prop :=
  0 < G.a ∧ 0 < G.d ∧ 0 < G.g ∧ 0 < G.adj1 ∧ 0 < G.adj2 ∧ 0 < G.adj3 ∧ 0 < G.det

theorem PosDef.a_pos {G : Sym3} (h : PosDef G) : 0 < G.a := h.1
theorem PosDef.d_pos {G : Sym3} (h : PosDef G) : 0 < G.d := h.2.1
theorem PosDef.adj1_pos {G : Sym3} (h : PosDef G) : 0 < G.adj1 := h.2.2.2.1
theorem PosDef.adj2_pos {G : Sym3} (h : PosDef G) : 0 < G.adj2 := h.2.2.2.2.1
theorem PosDef.adj3_pos {G : Sym3} (h : PosDef G) : 0 < G.adj3 := h.2.2.2.2.2.1
theorem PosDef.det_pos {G : Sym3} (h : PosDef G) : 0 < G.det := h.2.2.2.2.2.2

def cross (u w : V3) : V3 := ⟨u.y * w.z - u.z * w.y, u.z * w.x - u.x * w.z, u.x * w.y - u.y * w.x⟩

theorem dot_self_nonneg (v : V3) : 0 ≤ v.dot v :=
  add_nonneg (add_nonneg (mul_self_nonneg _) (mul_self_nonneg _)) (mul_self_nonneg _)

theorem lagrange (u w : V3) : u.dot u * w.dot w - u.dot w ^ 2 = (cross u w).dot (cross u w) := by
  simp only [V3.dot, cross]; ring

theorem dot_self_pos {u w : V3} (h : u.dot w ≠ 0) : 0 < u.dot u ∧ 0 < w.dot w := by
  -- Cauchy–Schwarz, read off `lagrange`
  have cs : u.dot w ^ 2 ≤ u.dot u * w.dot w := sub_nonneg.mp (lagrange u w ▸ dot_self_nonneg _)
  have pos : 0 < u.dot u * w.dot w := (sq_pos_of_ne_zero h).trans_le cs
  exact ⟨(dot_self_nonneg u).lt_of_ne' (left_ne_zero_of_mul pos.ne'),
    (dot_self_nonneg w).lt_of_ne' (right_ne_zero_of_mul pos.ne')⟩

theorem det_eq_triple (M : M3) :
    M.r1.dot (cross M.r2 M.r3) = M.det ∧ M.r2.dot (cross M.r1 M.r3) = -M.det ∧
      M.r3.dot (cross M.r1 M.r2) = M.det := by
  simp only [V3.dot, cross, M3.det]
  refine ⟨?_, ?_, ?_⟩ <;> ring

theorem det_metric (M : M3) : M.metric.det = M.det ^ 2 := by
  simp only [Sym3.det, M3.metric, V3.dot, M3.det]; ring

/-- the metric tensor of any non-degenerate cell is positive definite, so every theorem below
applies to every lattice a trajectory can have -/
theorem metric_posdef (M : M3) (h : M.det ≠ 0) : PosDef M.metric := by
  obtain ⟨t1, t2, t3⟩ := det_eq_triple M
  -- a row and the cross product of the other two rows have inner product ± det M, so neither is zero
  obtain ⟨a, p1⟩ := dot_self_pos (u := M.r1) (w := cross M.r2 M.r3) (by rwa [t1])
  obtain ⟨d, p2⟩ := dot_self_pos (u := M.r2) (w := cross M.r1 M.r3) (by rwa [t2, neg_ne_zero])
  obtain ⟨g, p3⟩ := dot_self_pos (u := M.r3) (w := cross M.r1 M.r2) (by rwa [t3])
  -- by `lagrange` the squared length of that cross product is the cofactor `adj_ii` of the metric (by unfolding)
  rw [← lagrange] at p1 p2 p3
  exact ⟨a, d, g, p1, p2, p3, det_metric M ▸ sq_pos_of_ne_zero h⟩

/-- complete the squares in `y`, then in `z`; what is left of `d · adj₁ · Q` is `d · det · x²` -/
private theorem coord1 (G : Sym3) (v : V3) (hd : 0 < G.d) (hm : 0 < G.adj1) : G.det * v.x ^ 2 ≤ G.adj1 * G.Q v := by
  have key : G.d * (G.adj1 * G.Q v - G.det * v.x ^ 2)
      = G.adj1 * (G.d * v.y + G.e * v.z + G.b * v.x) ^ 2 + (G.adj1 * v.z + (G.c * G.d - G.b * G.e) * v.x) ^ 2 := by
    simp only [Sym3.adj1, Sym3.Q, Sym3.det]; ring
  have h : 0 ≤ G.d * (G.adj1 * G.Q v - G.det * v.x ^ 2) :=
    key ▸ add_nonneg (mul_nonneg hm.le (sq_nonneg _)) (sq_nonneg _)
  exact sub_nonneg.mp ((mul_nonneg_iff_of_pos_left hd).mp h)

theorem coord_sq_le₁ (G : Sym3) (h : PosDef G) (v : V3) : G.det * v.x ^ 2 ≤ G.adj1 * G.Q v :=
  coord1 G v h.d_pos h.adj1_pos

theorem coord_sq_le₂ (G : Sym3) (h : PosDef G) (v : V3) : G.det * v.y ^ 2 ≤ G.adj2 * G.Q v := by
  -- the same with the axes in the order y, x, z
  have := coord1 ⟨G.d, G.b, G.e, G.a, G.c, G.g⟩ ⟨v.y, v.x, v.z⟩ h.a_pos h.adj2_pos
  simp only [Sym3.det, Sym3.adj1, Sym3.adj2, Sym3.Q] at this ⊢
  linarith

theorem coord_sq_le₃ (G : Sym3) (h : PosDef G) (v : V3) : G.det * v.z ^ 2 ≤ G.adj3 * G.Q v := by
  -- … in the order z, x, y
  have := coord1 ⟨G.g, G.c, G.e, G.a, G.b, G.d⟩ ⟨v.z, v.x, v.y⟩ h.a_pos h.adj3_pos
  simp only [Sym3.det, Sym3.adj1, Sym3.adj3, Sym3.Q] at this ⊢
  linarith

theorem abs_lt_of_cert {D A q m c w : ℚ} (hD : 0 < D) (hA : 0 < A) (hc : 0 ≤ c) (h : D * w ^ 2 ≤ A * q)
    (hq : q < m) (hm : m * A ≤ c ^ 2 * D) : |w| < c := by
  have h1 : D * w ^ 2 < D * c ^ 2 :=
    calc D * w ^ 2 ≤ A * q := h
      _ < A * m := mul_lt_mul_of_pos_left hq hA
      _ ≤ D * c ^ 2 := by rwa [mul_comm A, mul_comm D]
  exact abs_lt_of_sq_lt_sq (lt_of_mul_lt_mul_left h1 hD.le) hc

/-- `det G / adj_ii` is the squared `i`-th perpendicular width of the cell.  With `c = K + ½` this is the box
certificate of `minImageSq`, with `c = ½` the "radius below half of every perpendicular width" of C17 / C18. -/
theorem coord_lt_of_Q_lt (G : Sym3) (hpd : PosDef G) (v : V3) (m c : ℚ) (hc : 0 ≤ c) (hq : G.Q v < m)
    (h1 : m * G.adj1 ≤ c ^ 2 * G.det) (h2 : m * G.adj2 ≤ c ^ 2 * G.det) (h3 : m * G.adj3 ≤ c ^ 2 * G.det) :
    |v.x| < c ∧ |v.y| < c ∧ |v.z| < c :=
  ⟨abs_lt_of_cert hpd.det_pos hpd.adj1_pos hc (coord_sq_le₁ G hpd v) hq h1,
    abs_lt_of_cert hpd.det_pos hpd.adj2_pos hc (coord_sq_le₂ G hpd v) hq h2,
    abs_lt_of_cert hpd.det_pos hpd.adj3_pos hc (coord_sq_le₃ G hpd v) hq h3⟩

def shiftBy (f : V3) (n1 n2 n3 : ℤ) : V3 := ⟨f.x + n1, f.y + n2, f.z + n3⟩

theorem shiftBy_sub (x s : V3) (n1 n2 n3 : ℤ) : shiftBy x n1 n2 n3 - s = shiftBy (x - s) n1 n2 n3 := by
  simp only [shiftBy, V3.sub_def, V3.mk.injEq]
  exact ⟨add_sub_right_comm .., add_sub_right_comm .., add_sub_right_comm ..⟩

theorem sub_shiftBy (b a : V3) (n1 n2 n3 : ℤ) :
    b - shiftBy a n1 n2 n3 = shiftBy (b - a) (-n1) (-n2) (-n3) := by
  simp only [shiftBy, V3.sub_def, V3.mk.injEq, Int.cast_neg]
  exact ⟨by ring, by ring, by ring⟩

theorem listMin_eq_foldl (l : List ℚ) (m : ℚ) : listMin l m = l.foldl min m := by
  induction l generalizing m with
  | nil => rfl
  | cons x xs ih => simp only [listMin, ih, List.foldl_cons, min_def, ← ite_not (x < m), not_lt]

theorem listMin_least (l : List ℚ) (m : ℚ) : listMin l m ∈ m :: l ∧ ∀ x ∈ m :: l, listMin l m ≤ x :=
  List.min?_eq_some_iff.mp (by rw [List.min?_cons', listMin_eq_foldl])

theorem mem_intRange (K : ℕ) (n : ℤ) : n ∈ intRange K ↔ |n| ≤ (K : ℤ) := by
  unfold intRange
  simp only [List.mem_map, List.mem_range]
  rw [abs_le]
  constructor
  · rintro ⟨k, hk, rfl⟩
    constructor <;> omega
  · rintro ⟨hl, hu⟩
    refine ⟨(n + K).toNat, ?_, ?_⟩ <;> omega

/-- `boxMin G f K` is the least of the values `Q (f + n)`, `n ∈ [−K, K]³` -/
theorem boxMin_spec (G : Sym3) (f : V3) (K : ℕ) :
    (∀ n1 n2 n3 : ℤ, |n1| ≤ K → |n2| ≤ K → |n3| ≤ K → boxMin G f K ≤ G.Q (shiftBy f n1 n2 n3)) ∧
      ∃ n1 n2 n3 : ℤ, |n1| ≤ K ∧ |n2| ≤ K ∧ |n3| ≤ K ∧ boxMin G f K = G.Q (shiftBy f n1 n2 n3) := by
  -- `boxMin G f K` unfolds to `listMin vals (G.Q f)`: unification finds the list `vals`
  obtain ⟨hmem, hle⟩ : boxMin G f K ∈ _ ∧ ∀ x ∈ _, boxMin G f K ≤ x := listMin_least _ (G.Q f)
  simp only [List.mem_cons, List.mem_flatMap, List.mem_map, mem_intRange] at hmem hle
  refine ⟨fun n1 n2 n3 h1 h2 h3 => hle _ (Or.inr ⟨n1, h1, n2, h2, n3, h3, rfl⟩), ?_⟩
  rcases hmem with h0 | ⟨n1, h1, n2, h2, n3, h3, e⟩
  · exact ⟨0, 0, 0, by simp, by simp, by simp, by simpa [shiftBy] using h0⟩
  · exact ⟨n1, n2, n3, h1, h2, h3, e.symm⟩

theorem minImage_certified (G : Sym3) (hpd : PosDef G) (f : V3)
    (hf1 : |f.x| ≤ 1 / 2) (hf2 : |f.y| ≤ 1 / 2) (hf3 : |f.z| ≤ 1 / 2) (K : ℕ)
    (hc : certOK G K (boxMin G f K) = true) :
    ∀ n1 n2 n3 : ℤ, boxMin G f K ≤ G.Q (shiftBy f n1 n2 n3) := by
  intro n1 n2 n3
  simp only [certOK, Bool.and_eq_true, decide_eq_true_eq] at hc
  by_contra hlt
  obtain ⟨hx, hy, hz⟩ := coord_lt_of_Q_lt G hpd _ _ ((K : ℚ) + 1 / 2) (by positivity) (not_le.mp hlt)
    hc.1.1 hc.1.2 hc.2
  exact hlt ((boxMin_spec G f K).1 n1 n2 n3 (C01.abs_le_of_abs_add_lt hf1 hx)
    (C01.abs_le_of_abs_add_lt hf2 hy) (C01.abs_le_of_abs_add_lt hf3 hz))

theorem minImageSqAux_some {G : Sym3} {f : V3} {fuel K : ℕ} {m : ℚ} (h : minImageSqAux G f fuel K = some m) :
    ∃ K' : ℕ, m = boxMin G f K' ∧ certOK G K' m = true := by
  induction fuel generalizing K with
  | zero => cases h
  | succ fuel ih =>
    rw [minImageSqAux] at h
    split_ifs at h with hc
    · cases h; exact ⟨K, rfl, hc⟩
    · exact ih h

-- the names under which DESIGN.md §2 lists these two scalar facts; the proofs below use `C01.…` itself
private theorem abs_minImg1_le_half (d : ℚ) : |minImg1 d| ≤ 1 / 2 := C01.abs_minImg1_le_half d

private theorem minImg1_add_int (d : ℚ) (k : ℤ) (h : ∀ j : ℤ, d ≠ (j : ℚ) + 1 / 2) :
    minImg1 (d + k) = minImg1 d := C01.minImg1_add_int d k h

theorem shiftBy_map (v : V3) (n1 n2 n3 : ℤ) :
    shiftBy v n1 n2 n3 = shiftBy (v.map minImg1) (n1 + rne v.x) (n2 + rne v.y) (n3 + rne v.z) := by
  simp only [shiftBy, V3.map, minImg1, V3.mk.injEq]
  refine ⟨?_, ?_, ?_⟩ <;> push_cast <;> ring

/-- **the model's periodic distance is the true minimum-image distance**: whenever
`minImageSqCert` returns a value, it is the minimum of `Q G (v + n)` over all `n ∈ ℤ³`, attained. -/
theorem minImageSqCert_spec (G : Sym3) (hpd : PosDef G) (v : V3) (m : ℚ)
    (h : minImageSqCert G v = some m) :
    (∀ n1 n2 n3 : ℤ, m ≤ G.Q (shiftBy v n1 n2 n3)) ∧
    (∃ n1 n2 n3 : ℤ, m = G.Q (shiftBy v n1 n2 n3)) := by
  obtain ⟨K, rfl, hcK⟩ := minImageSqAux_some h
  have hall := minImage_certified G hpd (v.map minImg1) (C01.abs_minImg1_le_half v.x) (C01.abs_minImg1_le_half v.y)
    (C01.abs_minImg1_le_half v.z) K hcK
  refine ⟨fun n1 n2 n3 => shiftBy_map v n1 n2 n3 ▸ hall _ _ _, ?_⟩
  obtain ⟨k1, k2, k3, _, _, _, hk⟩ := (boxMin_spec G (v.map minImg1) K).2
  refine ⟨k1 - rne v.x, k2 - rne v.y, k3 - rne v.z, ?_⟩
  rw [hk, shiftBy_map v]
  congr 2 <;> ring

/-- periodicity, away from ties (at a tie round-half-even may reduce the two sides to `½` and `−½`:
`C01.tie_counterexample`) -/
theorem minImageSqCert_shift (G : Sym3) (v : V3) (n1 n2 n3 : ℤ) (hn : ∀ k : ℤ, v.x ≠ k + 1/2 ∧ v.y ≠ k + 1/2 ∧ v.z ≠ k + 1/2) :
    minImageSqCert G (shiftBy v n1 n2 n3) = minImageSqCert G v := by
  simp only [minImageSqCert, shiftBy, V3.map, C01.minImg1_add_int _ _ fun k => (hn k).1,
    C01.minImg1_add_int _ _ fun k => (hn k).2.1, C01.minImg1_add_int _ _ fun k => (hn k).2.2]

theorem Q_neg (G : Sym3) (v : V3) : G.Q (-v) = G.Q v := by
  simp only [Sym3.Q, V3.neg_def]
  ring

theorem Q_parallelogram (G : Sym3) (u v : V3) : G.Q (u + v) + G.Q (u - v) = 2 * G.Q u + 2 * G.Q v := by
  simp only [Sym3.Q, V3.add_def, V3.sub_def]
  ring

theorem Q_sub_comm (G : Sym3) (u v : V3) : G.Q (u - v) = G.Q (v - u) := by
  simp only [Sym3.Q, V3.sub_def]
  ring

theorem Q_shift_swap (G : Sym3) (a b : V3) (n1 n2 n3 : ℤ) :
    G.Q (shiftBy (a - b) n1 n2 n3) = G.Q (shiftBy (b - a) (-n1) (-n2) (-n3)) := by
  rw [← shiftBy_sub, ← sub_shiftBy, Q_sub_comm]

theorem Q_nonneg_of_posdef (G : Sym3) (hpd : PosDef G) (v : V3) : 0 ≤ G.Q v :=
  (mul_nonneg_iff_of_pos_left hpd.adj1_pos).mp
    ((mul_nonneg hpd.det_pos.le (sq_nonneg _)).trans (coord_sq_le₁ G hpd v))

theorem pbcDist_symm (G : Sym3) (hpd : PosDef G) (a b : V3) (m m' : ℚ)
    (h : minImageSqCert G (b - a) = some m) (h' : minImageSqCert G (a - b) = some m') : m = m' := by
  obtain ⟨hle, k1, k2, k3, hk⟩ := minImageSqCert_spec G hpd (b - a) m h
  obtain ⟨hle', j1, j2, j3, hj⟩ := minImageSqCert_spec G hpd (a - b) m' h'
  apply le_antisymm
  · rw [hj, Q_shift_swap]
    exact hle _ _ _
  · rw [hk, Q_shift_swap]
    exact hle' _ _ _

/-- a strongly triclinic cell -/
example :
    let M : M3 := ⟨⟨6, 0, 0⟩, ⟨9/2, 6, 0⟩, ⟨7/2, 5/2, 7⟩⟩
    minImageSqCert M.metric ⟨3/4, 1/2, 0⟩ = some (153/16) := by
  decide +kernel

end G.Geometry
