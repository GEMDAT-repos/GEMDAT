import GGen.FormulasC10
import GModel.Labels
import GProofs.C10
import Mathlib.Tactic.Ring
/-!
# C10 — obligations on the slice regenerated from `path.py` (GGen/FormulasC10.lean; see DESIGN 12.8):
graph construction, the scan over the peaks, wrapped and fractional sites
-/
namespace G.C10Gen
open G

theorem isNode_iff (F thr : ℚ) : Gen.isNode F thr = true ↔ 0 ≤ F ∧ F < thr := by
  unfold Gen.isNode
  simp

theorem edgeWeight_eq (a b e thr : ℚ) : Gen.edgeWeight a b e thr = (a + b) / 2 := by
  unfold Gen.edgeWeight
  ring

theorem edgeWeightExp_eq (a b e thr : ℚ) : Gen.edgeWeightExp a b e thr = min e thr := by
  unfold Gen.edgeWeightExp
  split_ifs with h
  · exact (min_eq_left h.le).symm
  · exact (min_eq_right (not_lt.mp h)).symm

/-- the scan over the peaks as the source performs it: a peak without a percolating path is handled by
`Gen.peakNoPath`, a better path is recognised by `Gen.peakBetter`; the initial best cost is +∞ (`none`) -/
def scanGen : Option (Nat × ℚ) → List (Nat × Option ℚ) → Option (Nat × ℚ)
  | acc, [] => acc
  | acc, (_, none) :: rest =>
    match Gen.peakNoPath with
    | .cont => scanGen acc rest
    | .brk => acc
  | acc, (k, some c) :: rest =>
    scanGen (match acc with
      | none => some (k, c)
      | some (k', b) => if Gen.peakBetter c b then some (k, c) else some (k', b)) rest

/-- … is the model's scan, hence (C10Peak) returns the cheapest path over ALL supplied peaks -/
theorem scanGen_eq_model (acc : Option (Nat × ℚ)) (l : List (Nat × Option ℚ)) :
    scanGen acc l = Labels.bestPeakFrom acc l := by
  induction l generalizing acc with
  | nil => rfl
  | cons hd tl ih =>
    obtain ⟨k, oc⟩ := hd
    cases oc with
    | none =>
      have hp : Gen.peakNoPath = .cont := rfl
      simp only [scanGen, hp, Labels.bestPeakFrom, List.foldl_cons, Labels.bestStep]
      exact ih acc
    | some c =>
      simp only [scanGen, Labels.bestPeakFrom, List.foldl_cons, Labels.bestStep]
      rw [ih]
      cases acc with
      | none => rfl
      | some kb =>
        obtain ⟨k', b⟩ := kb
        simp only [Gen.peakBetter, Labels.bestPeakFrom, decide_eq_true_eq]

/-- every wrapped coordinate lies inside the grid along ITS OWN axis and is congruent to the original -/
theorem wrappedSite_spec (x y z nx ny nz : Int) (hx : 0 < nx) (hy : 0 < ny) (hz : 0 < nz) :
    let w := Gen.wrappedSite x y z nx ny nz
    (0 ≤ w.1 ∧ w.1 < nx ∧ nx ∣ (x - w.1)) ∧ (0 ≤ w.2.1 ∧ w.2.1 < ny ∧ ny ∣ (y - w.2.1)) ∧
    (0 ≤ w.2.2 ∧ w.2.2 < nz ∧ nz ∣ (z - w.2.2)) := by
  unfold Gen.wrappedSite
  exact ⟨C10.emod_spec x nx hx, C10.emod_spec y ny hy, C10.emod_spec z nz hz⟩

theorem wrappedSite_eq_model (dims : Nat × Nat × Nat) (hx : 0 < dims.1) (hy : 0 < dims.2.1) (hz : 0 < dims.2.2) (v : Path.Vox) :
    Gen.wrappedSite v.1 v.2.1 v.2.2 dims.1 dims.2.1 dims.2.2 = Path.wrapSite dims v := by
  unfold Gen.wrappedSite Path.wrapSite
  rw [C10.pmod_cast _ _ hx, C10.pmod_cast _ _ hy, C10.pmod_cast _ _ hz]

theorem fracSite_in_unit (w n : Int) (hw : 0 ≤ w) (hn : w < n) :
    0 < Gen.fracSite (w : ℚ) (n : ℚ) ∧ Gen.fracSite (w : ℚ) (n : ℚ) < 1 := by
  have e : Gen.fracSite (w : ℚ) (n : ℚ) = ((w : ℚ) + 1 / 2) / (n : ℚ) := by unfold Gen.fracSite; ring
  rw [e]
  exact C10.intCentre_in_unit w n hw hn

theorem frac_sites_use_wrapped : Gen.fracSitesUseWrapped = true := by
  rfl

end G.C10Gen
