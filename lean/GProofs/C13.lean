import GModel.Traj
import GProofs.C15
/-!
# C13 — drift correction removes exactly the reference-frame motion

The hypothesis `SmallSteps` (every corrected step stays below half a cell) is a domain
precondition: the drift of a selection is re-derived from wrapped positions (`driftSel` goes through `filterT`, as
`drift(fixed_species=…)` does), and positions modulo 1 cannot represent a larger step.  An EMPTY selection is excluded
explicitly: Lean's `0 / 0 = 0` would make the statements hold for the wrong reason where numpy
yields NaN.

Frames are flat coordinate lists, the drift acts on atoms: `flat` and `toV3s` translate, and what needs
frames of whole atoms (`3 ∣ length`) is proved of `flat A` for a list `A` of 3-vectors (`exists_flat`).
-/
namespace G.C13
open G G.Traj G.C01

def mean (l : List ℚ) : ℚ := l.sum / l.length

theorem mean_map_add (l : List ℚ) (hne : l ≠ []) (c : ℚ) : mean (l.map (· + c)) = mean l + c := by
  have hl : (l.length : ℚ) ≠ 0 := Nat.cast_ne_zero.mpr (mt List.eq_nil_of_length_eq_zero hne)
  unfold mean
  rw [List.sum_map_add, List.map_id', List.map_const', List.sum_replicate, nsmul_eq_mul, List.length_map, add_div,
    mul_div_cancel_left₀ _ hl]

/-- **C13 (core)**: subtracting the mean of a non-empty selection from each member leaves a
selection whose mean is zero. -/
theorem mean_sub_mean (l : List ℚ) (hne : l ≠ []) : mean (l.map (· - mean l)) = 0 := by
  simp only [sub_eq_add_neg]
  rw [mean_map_add l hne, add_neg_cancel]

theorem minImg1_small (x : ℚ) (h : |x| < 1 / 2) : minImg1 x = x :=
  minImg1_eq_of_congr (k := 0) (by simp) h

/-- a step below half a cell is recovered when whole cells were added in between (positions are only known modulo 1) -/
theorem minImg1_small_shift (x : ℚ) (k : ℤ) (h : |x| < 1 / 2) : minImg1 (x + k) = x :=
  minImg1_eq_of_congr rfl h

/-- the three coordinate functions: what is proved of an arbitrary `π` with `Coord π` holds of `x`, `y`
and `z`, and `V3.ext_coord` puts the three together -/
inductive Coord : (V3 → ℚ) → Prop
  | x : Coord (·.x)
  | y : Coord (·.y)
  | z : Coord (·.z)

theorem _root_.G.V3.ext_coord {u v : V3} (h : ∀ π, Coord π → π u = π v) : u = v :=
  V3.mk.injEq .. ▸ ⟨h _ .x, h _ .y, h _ .z⟩

variable {π : V3 → ℚ}

theorem Coord.add (h : Coord π) (u v : V3) : π (u + v) = π u + π v := by cases h <;> rfl

theorem Coord.sub (h : Coord π) (u v : V3) : π (u - v) = π u - π v := by cases h <;> rfl

theorem Coord.zero (h : Coord π) : π V3.zero = 0 := by cases h <;> rfl

theorem Coord.map (h : Coord π) (φ : ℚ → ℚ) (v : V3) : π (V3.map φ v) = φ (π v) := by cases h <;> rfl

theorem v3_sub_zero (v : V3) : v - V3.zero = v := V3.ext_coord fun π h => by rw [h.sub, h.zero, sub_zero]

theorem Coord.foldl (h : Coord π) (vs : List V3) (acc : V3) :
    π (vs.foldl (· + ·) acc) = π acc + (vs.map π).sum := by
  induction vs generalizing acc with
  | nil => simp
  | cons v vs ih => rw [List.foldl_cons, ih, h.add, List.map_cons, List.sum_cons, add_assoc]

theorem Coord.mem_toV3s (h : Coord π) {f : Frame} {p : V3} (hp : p ∈ toV3s f) : π p ∈ f := by
  obtain ⟨hx, hy, hz⟩ := G.C15.mem_toV3s f p hp
  cases h <;> assumption

def meanV (vs : List V3) : V3 := ⟨mean (vs.map (·.x)), mean (vs.map (·.y)), mean (vs.map (·.z))⟩

theorem Coord.meanV (h : Coord π) (vs : List V3) : π (meanV vs) = mean (vs.map π) := by cases h <;> rfl

theorem Coord.meanAll (h : Coord π) (f : Frame) : π (meanAll f) = mean ((toV3s f).map π) := by
  -- `Traj.meanAll`: the bare name would be this theorem
  have e : π (Traj.meanAll f) = π ((toV3s f).foldl (· + ·) V3.zero) / ((toV3s f).length : ℚ) := by cases h <;> rfl
  rw [e, h.foldl, h.zero, zero_add, mean, List.length_map]

theorem meanAll_eq (f : Frame) : meanAll f = meanV (toV3s f) :=
  V3.ext_coord fun _ h => by rw [h.meanAll, h.meanV]

theorem meanAll_zero (f : Frame) (h : ∀ v ∈ f, v = 0) : meanAll f = V3.zero :=
  V3.ext_coord fun π hπ => by
    rw [hπ.meanAll, hπ.zero, mean, List.sum_eq_zero, zero_div]
    intro v hv
    obtain ⟨p, hp, rfl⟩ := List.mem_map.mp hv
    exact h _ (hπ.mem_toV3s hp)

theorem meanV_shift {S : List V3} (hS : S ≠ []) (d : V3) : meanV (S.map (fun v => v + d)) = meanV S + d :=
  V3.ext_coord fun π h => by
    rw [h.meanV, h.add, h.meanV, ← mean_map_add _ (by simpa using hS), List.map_map, List.map_map]
    exact congrArg mean (List.map_congr_left fun v _ => h.add v d)

theorem meanV_sub_meanV {W : List V3} (hW : W ≠ []) : meanV (W.map (fun v => v - meanV W)) = V3.zero :=
  V3.ext_coord fun π h => by
    rw [h.meanV, h.zero, List.map_map, ← mean_sub_mean (W.map π) (by simpa using hW), List.map_map, ← h.meanV]
    exact congrArg mean (List.map_congr_left fun v _ => h.sub v _)

/-- flatten a list of 3-vectors into a frame (inverse of `toV3s`) -/
def flat (vs : List V3) : Frame := vs.flatMap V3.toList

theorem flat_nil : flat [] = [] := rfl

theorem flat_cons (v : V3) (vs : List V3) : flat (v :: vs) = v.x :: v.y :: v.z :: flat vs := rfl

theorem flat_length (vs : List V3) : (flat vs).length = 3 * vs.length := by
  induction vs with
  | nil => rfl
  | cons v vs ih => rw [flat_cons]; simp only [List.length_cons, ih]; omega

theorem toV3s_flat (vs : List V3) : toV3s (flat vs) = vs := by
  induction vs with
  | nil => rfl
  | cons v vs ih => rw [flat_cons, toV3s, ih]

theorem flat_toV3s : ∀ (f : Frame), 3 ∣ f.length → flat (toV3s f) = f
  | [], _ => rfl
  | [_], h | [_, _], h => by simp at h
  | x :: y :: z :: r, h => by
    rw [toV3s, flat_cons, flat_toV3s r (Nat.dvd_add_self_right.mp h)]

theorem exists_flat (f : Frame) (h : 3 ∣ f.length) : ∃ A, f = flat A :=
  ⟨toV3s f, (flat_toV3s f h).symm⟩

/-- `maskFrame` on 3-vectors (`maskFrame_eq`) -/
def sel : List Bool → List V3 → List V3
  | b :: m, v :: vs => if b then v :: sel m vs else sel m vs
  | _, _ => []

theorem sel_nil_right (m : List Bool) : sel m [] = [] := by
  cases m <;> rfl

theorem sel_nil_left (vs : List V3) : sel [] vs = [] := rfl

theorem sel_cons (b : Bool) (m : List Bool) (v : V3) (vs : List V3) :
    sel (b :: m) (v :: vs) = if b then v :: sel m vs else sel m vs := rfl

theorem maskFrame_eq (m : List Bool) (f : Frame) : maskFrame m f = flat (sel m (toV3s f)) := by
  unfold maskFrame
  generalize toV3s f = vs
  induction vs generalizing m with
  | nil => rw [sel_nil_right]; rfl
  | cons v vs ih =>
    cases m with
    | nil => rfl
    | cons b m =>
      rw [List.zip_cons_cons, List.flatMap_cons, ih m, sel_cons]
      cases b <;> rfl

def v3zip (op : ℚ → ℚ → ℚ) (u v : V3) : V3 := ⟨op u.x v.x, op u.y v.y, op u.z v.z⟩

theorem Coord.v3zip (h : Coord π) (op : ℚ → ℚ → ℚ) (u v : V3) : π (v3zip op u v) = op (π u) (π v) := by
  cases h <;> rfl

theorem zipWith_flat (op : ℚ → ℚ → ℚ) (a b : List V3) :
    List.zipWith op (flat a) (flat b) = flat (List.zipWith (v3zip op) a b) := by
  induction a generalizing b with
  | nil => rfl
  | cons u a ih =>
    cases b with
    | nil => simp [flat_nil]
    | cons v b =>
      rw [List.zipWith_cons_cons, flat_cons, flat_cons, flat_cons]
      simp only [List.zipWith_cons_cons, ih b]
      rfl

theorem map_flat (g : ℚ → ℚ) (a : List V3) : (flat a).map g = flat (a.map (V3.map g)) := by
  rw [flat, flat, List.map_flatMap, List.flatMap_map]
  rfl

theorem sel_map (g : V3 → V3) (m : List Bool) (a : List V3) : sel m (a.map g) = (sel m a).map g := by
  induction a generalizing m with
  | nil => rw [List.map_nil, sel_nil_right]; rfl
  | cons u a ih =>
    cases m with
    | nil => rfl
    | cons b m =>
      rw [List.map_cons, sel_cons, sel_cons, ih m]
      cases b <;> rfl

theorem sel_zipWith (g : V3 → V3 → V3) (m : List Bool) (a b : List V3) :
    sel m (List.zipWith g a b) = List.zipWith g (sel m a) (sel m b) := by
  induction a generalizing m b with
  | nil => simp [sel_nil_right]
  | cons u a ih =>
    cases b with
    | nil => simp [sel_nil_right]
    | cons v b =>
      cases m with
      | nil => rfl
      | cons c m =>
        rw [List.zipWith_cons_cons, sel_cons, sel_cons, sel_cons, ih m b]
        cases c <;> rfl

theorem sel_ne_nil (m : List Bool) (vs : List V3) (a : Nat) (ha : a < vs.length)
    (hm : m.getD a false = true) : sel m vs ≠ [] := by
  induction m generalizing vs a with
  | nil => simp at hm
  | cons b m ih =>
    obtain _ | ⟨v, vs⟩ := vs
    · simp at ha
    cases b
    · obtain _ | a := a
      · simp at hm
      · exact ih vs a (Nat.lt_of_succ_lt_succ ha) hm
    · exact List.cons_ne_nil _ _

/-- the selection picks at least one atom of an `n/3`-atom frame -/
def NonEmptySel (mask : List Bool) (n : Nat) : Prop := ∃ a, a < n / 3 ∧ mask.getD a false = true

theorem NonEmptySel.ne_nil {m : List Bool} {n : Nat} (hsel : NonEmptySel m n) (h3 : 3 ∣ n) {f : Frame}
    (hf : f.length = n) : sel m (toV3s f) ≠ [] := by
  obtain ⟨a, ha, hm⟩ := hsel
  have hl := congrArg List.length (flat_toV3s f (hf ▸ h3))
  rw [flat_length, hf] at hl
  exact sel_ne_nil m _ a (by omega) hm

theorem maskFrame_vsub_map (m : List Bool) (g : ℚ → ℚ) (a b : Frame) (ha : 3 ∣ a.length) (hb : 3 ∣ b.length) :
    maskFrame m ((vsub a b).map g) = (vsub (maskFrame m a) (maskFrame m b)).map g := by
  obtain ⟨A, rfl⟩ := exists_flat a ha
  obtain ⟨B, rfl⟩ := exists_flat b hb
  simp only [vsub, zipWith_flat, map_flat, maskFrame_eq, toV3s_flat, sel_map, sel_zipWith]

theorem maskFrame_map (m : List Bool) (g : ℚ → ℚ) (a : Frame) (ha : 3 ∣ a.length) :
    maskFrame m (a.map g) = (maskFrame m a).map g := by
  obtain ⟨A, rfl⟩ := exists_flat a ha
  simp only [map_flat, maskFrame_eq, toV3s_flat, sel_map]

theorem diffs_mask (m : List Bool) {n : Nat} (h3 : 3 ∣ n) (rest : List Frame) (p : Frame) (hp : p.length = n)
    (hr : Rect rest n) : diffs (maskFrame m p) (rest.map (maskFrame m)) = (diffs p rest).map (maskFrame m) := by
  induction rest generalizing p with
  | nil => rfl
  | cons g rest ih =>
    obtain ⟨hg, hr⟩ := rect_cons.mp hr
    simp only [List.map_cons, diffs]
    rw [ih g hg hr, maskFrame_vsub_map m _ g p (hg ▸ h3) (hp ▸ h3)]

theorem toDispCoords_mask (m : List Bool) {n : Nat} (h3 : 3 ∣ n) (P : List Frame) (h : Rect P n) :
    toDispCoords (P.map (maskFrame m)) = (toDispCoords P).map (maskFrame m) := by
  cases P with
  | nil => rfl
  | cons p rest =>
    obtain ⟨hp, hr⟩ := rect_cons.mp h
    simp only [List.map_cons, toDispCoords, zerosLike]
    rw [diffs_mask m h3 rest p hp hr, maskFrame_map m _ p (hp ▸ h3)]

theorem length_flat_map (g : V3 → V3) (f : Frame) (h : 3 ∣ f.length) : (flat ((toV3s f).map g)).length = f.length := by
  rw [flat_length, List.length_map, ← flat_length, flat_toV3s f h]

theorem flat_map_id {g : V3 → V3} (hg : ∀ v, g v = v) (f : Frame) (h : 3 ∣ f.length) : flat ((toV3s f).map g) = f := by
  rw [List.map_id'' hg, flat_toV3s f h]

theorem subDrift_eq (f : Frame) (d : V3) : subDrift f d = flat ((toV3s f).map (fun v => v - d)) :=
  (List.flatMap_map ..).symm

theorem subDrift_zero (f : Frame) (h : 3 ∣ f.length) : subDrift f V3.zero = f :=
  (subDrift_eq f _).trans (flat_map_id v3_sub_zero f h)

theorem length_subDrift (f : Frame) (d : V3) (h : 3 ∣ f.length) : (subDrift f d).length = f.length :=
  subDrift_eq f d ▸ length_flat_map _ f h

theorem meanAll_mask_subDrift (m : List Bool) (f : Frame) (hs : sel m (toV3s f) ≠ []) :
    meanAll (maskFrame m (subDrift f (meanAll (maskFrame m f)))) = V3.zero := by
  rw [meanAll_eq, maskFrame_eq, subDrift_eq, toV3s_flat, toV3s_flat, sel_map, meanAll_eq, maskFrame_eq, toV3s_flat]
  exact meanV_sub_meanV hs

theorem cong_vsub_wrap : ∀ {A g : Frame}, A.length = g.length →
    G.C01.Cong (vsub ((vadd A g).map wrap) (A.map wrap)) g
  | [], [], _ => .nil
  | a :: A, x :: g, h => by
    obtain ⟨k1, h1⟩ := wrap_congr (a + x)
    obtain ⟨k2, h2⟩ := wrap_congr a
    exact .cons ⟨k1 - k2, by rw [h1, h2]; push_cast; ring⟩ (cong_vsub_wrap (Nat.succ.inj h))

theorem roundtrip_diffs {n : Nat} (rest : List Frame) {A : Frame} (ha : A.length = n) (hr : Rect rest n)
    (hs : ∀ f ∈ rest, ∀ v ∈ f, |v| < 1 / 2) :
    diffs (A.map wrap) ((cumsumFrom A rest).map (·.map wrap)) = rest := by
  induction rest generalizing A with
  | nil => rfl
  | cons g rest ih =>
    obtain ⟨hg, hr⟩ := rect_cons.mp hr
    obtain ⟨hsg, hs⟩ := List.forall_mem_cons.mp hs
    simp only [cumsumFrom, List.map_cons, diffs]
    rw [(cong_vsub_wrap (ha.trans hg.symm)).map_minImg1 hsg, ih (by simp [ha, hg]) hr hs]

/-- **round trip**: a well-formed displacement-mode state whose steps are all below half a cell is
recovered exactly when its displacements are re-derived from its wrapped positions. -/
theorem roundtrip (n : Nat) (c : TState) (h : G.C15.WF n c) (hd : c.disp = true)
    (hs : ∀ f ∈ c.coords, ∀ v ∈ f, |v| < 1 / 2) : toDispCoords (absPos c) = c.coords := by
  cases G.C15.wf_iff.mp h with
  | pos => nomatch hd
  | @disp rest base hb hr =>
    rw [absPos, G.C15.toPositions_disp hb]
    simp only [List.map_cons, toDispCoords, zerosLike_eq, List.length_map, hb]
    rw [roundtrip_diffs rest hb hr (List.forall_mem_cons.mp hs).2]

theorem zipWith_map_right_self {α β γ : Type} (f : α → β → γ) (g : α → β) (l : List α) :
    List.zipWith f l (l.map g) = l.map (fun x => f x (g x)) :=
  List.zipWith_map_right.trans List.zipWith_self

theorem wf_sub (n : Nat) (μ : Frame → V3) (hμ : ∀ f, (∀ v ∈ f, v = 0) → μ f = V3.zero) {C : List Frame} {b : Frame}
    (h : G.C15.WF n ⟨true, C, b⟩) (h3 : 3 ∣ n) : G.C15.WF n ⟨true, C.map (fun f => subDrift f (μ f)), b⟩ := by
  cases G.C15.wf_iff.mp h with
  | @disp rest base hb hr =>
    simp only [List.map_cons]
    rw [hμ _ fun v hv => (List.mem_replicate.mp hv).2, subDrift_zero _ (by simpa using h3)]
    exact G.C15.wf_iff.mpr (.disp hb (hr.map fun f hf => by rw [length_subDrift _ _ (hf ▸ h3), hf]))

theorem toDisplacements_toPositions (s : TState) :
    toDisplacements (toPositions s) = ⟨true, toDispCoords (absPos s), s.base⟩ := rfl

theorem applyDrift_some_raw (m : List Bool) (s : TState) :
    (applyDrift (some m) s).2 = ⟨true, List.zipWith subDrift (toDispCoords (absPos s))
      ((toDispCoords ((absPos s).map (maskFrame m))).map meanAll), s.base⟩ := rfl

theorem driftSel_raw (m : List Bool) (s : TState) :
    (driftSel m s).2 = (toDispCoords ((absPos s).map (maskFrame m))).map meanAll := rfl

theorem applyDrift_some_eq (n : Nat) (m : List Bool) (s : TState) (h : G.C15.WF n s) (h3 : 3 ∣ n) :
    (applyDrift (some m) s).2 = ⟨true, (toDispCoords (absPos s)).map
      (fun f => subDrift f (meanAll (maskFrame m f))), s.base⟩ := by
  rw [applyDrift_some_raw, toDispCoords_mask m h3 _ h.rect_absPos, List.map_map,
    zipWith_map_right_self]
  rfl

-- `applyDrift none` switches to displacements twice, and `toDisplacements (toDisplacements s) = toDisplacements s` is not
-- `rfl` for a variable `s` (`toDisplacements` tests the stored mode): hence the cases, here and in `toDisplacements_eta`
theorem applyDrift_none_eq (s : TState) :
    (applyDrift none s).2 = ⟨true, (toDisplacements s).coords.map (fun f => subDrift f (meanAll f)), s.base⟩ := by
  obtain ⟨d, c, b⟩ := s
  cases d <;> exact congrArg (TState.mk true · b) (zipWith_map_right_self ..)

theorem toDisplacements_eta (s : TState) : toDisplacements s = ⟨true, (toDisplacements s).coords, s.base⟩ := by
  obtain ⟨d, c, b⟩ := s
  cases d <;> rfl

theorem absPos_head {n : Nat} {s : TState} (h : G.C15.WF n s) : (absPos s).head? = some (s.base.map wrap) := by
  cases G.C15.wf_iff.mp h with
  | pos hb hf hr hc => rw [G.C15.absPos_of_pos _ rfl, List.map_cons, hc.map_wrap]; rfl
  | disp hb hr => rw [absPos, G.C15.toPositions_disp hb]; rfl

/-- every corrected step (all atoms, all frames, all components) is below half a cell -/
def SmallSteps (mask : List Bool) (s : TState) : Prop :=
  ∀ f ∈ (applyDrift (some mask) s).2.coords, ∀ v ∈ f, |v| < 1 / 2

section
variable {n : Nat} {s : TState} (h : G.C15.WF n s) (h3 : 3 ∣ n)
include h h3

theorem corrected_wf (mask : Option (List Bool)) : G.C15.WF n (applyDrift mask s).2 := by
  cases mask with
  | some m =>
    rw [applyDrift_some_eq n m s h h3]
    exact wf_sub n (fun f => meanAll (maskFrame m f))
      (fun f hf => meanAll_zero _ fun v hv => hf v (G.C15.mem_maskFrame m f v hv))
      (G.C15.toDisplacements_wf n _ (G.C15.toPositions_wf n s h)) h3
  | none =>
    rw [applyDrift_none_eq]
    exact wf_sub n meanAll meanAll_zero (toDisplacements_eta s ▸ G.C15.toDisplacements_wf n s h) h3

variable {mask : List Bool}

theorem corrected_roundtrip (hsmall : SmallSteps mask s) :
    toDispCoords (absPos (applyDrift (some mask) s).2) = (applyDrift (some mask) s).2.coords :=
  roundtrip n _ (corrected_wf h h3 (some mask)) rfl hsmall

/-- no `SmallSteps` needed: this is about the STORED frames -/
theorem corrected_residual (hsel : NonEmptySel mask n) :
    ∀ f ∈ (applyDrift (some mask) s).2.coords, meanAll (maskFrame mask f) = V3.zero := by
  rw [applyDrift_some_eq n mask s h h3]
  intro f hf
  obtain ⟨g, hg, rfl⟩ := List.mem_map.mp hf
  exact meanAll_mask_subDrift mask g
    (hsel.ne_nil h3 ((G.C15.toDisplacements_wf n _ (G.C15.toPositions_wf n s h)).rect g hg))

/-- the re-derived displacements are the stored ones, and their reference mean is already zero -/
theorem applyDrift_fixed (hsel : NonEmptySel mask n) (hsmall : SmallSteps mask s) :
    (applyDrift (some mask) (applyDrift (some mask) s).2).2 = (applyDrift (some mask) s).2 := by
  have hw := corrected_wf h h3 (some mask)
  have e : ∀ f ∈ (applyDrift (some mask) s).2.coords, subDrift f (meanAll (maskFrame mask f)) = f := fun f hf => by
    rw [corrected_residual h h3 hsel f hf, subDrift_zero f (hw.rect f hf ▸ h3)]
  rw [applyDrift_some_eq n mask _ hw h3, corrected_roundtrip h h3 hsmall, List.map_congr_left e, List.map_id']
  rfl

end

/-- **C13 (shape)**: the corrected trajectory is stored as displacements, and its base positions are those of the source
state as the two queries inside `apply_drift_correction` (the drift, then the displacements) have left it; that is what
`applyDrift` stores by definition.  That they are the ORIGINAL base positions is `corrected_base`. -/
theorem corrected_shape (mask : Option (List Bool)) (s : TState) :
    (applyDrift mask s).2.disp = true ∧ (applyDrift mask s).2.base = (displacements (match mask with
      | some m => (driftSel m s).1 | none => (driftAll s).1)).1.base := by
  cases mask <;> exact ⟨rfl, rfl⟩

theorem corrected_base (mask : Option (List Bool)) (s : TState) : (applyDrift mask s).2.base = s.base := by
  cases mask with
  | some m => rfl
  | none => rw [applyDrift_none_eq]

/- The statement without `3 ∣ n`,

theorem first_frame_unchanged (n : Nat) (mask : Option (List Bool)) (s : TState) (h : G.C15.WF n s) :
    (absPos (applyDrift mask s).2).head? = (absPos s).head?

is false: for `n` not a multiple of 3 `subDrift` drops the trailing `n % 3` coordinates of every frame, so the
corrected frames are shorter than the source frames. -/

/-- a one-coordinate frame is well formed for `n = 1`, but its corrected first frame is empty -/
theorem first_frame_unchanged_counterexample :
    G.C15.WF 1 (fresh [[1/2]]) ∧
    (absPos (applyDrift none (fresh [[1/2]])).2).head? = some [] ∧
    (absPos (fresh [[1/2]])).head? = some [1/2] := by
  exact ⟨G.C15.fresh_wf _ 1 (by simp [Rect]) (by simp), by decide +kernel⟩

/-- **C13 (first frame)**: the first frame of the corrected trajectory is the first frame of the
source, for frames that consist of whole atoms. -/
theorem first_frame_unchanged_partial (n : Nat) (mask : Option (List Bool)) (s : TState)
    (h : G.C15.WF n s) (h3 : 3 ∣ n) :
    (absPos (applyDrift mask s).2).head? = (absPos s).head? := by
  rw [absPos_head (corrected_wf h h3 mask), absPos_head h, corrected_base]

/-- **C13 (residual drift)**: after correction with respect to a non-empty reference selection the
mean per-frame displacement of that selection is zero in every frame. -/
theorem residual_drift_zero (n : Nat) (mask : List Bool) (s : TState) (h : G.C15.WF n s) (h3 : 3 ∣ n)
    (hsel : NonEmptySel mask n) (hsmall : SmallSteps mask s) :
    ∀ v ∈ (driftSel mask (applyDrift (some mask) s).2).2, v = V3.zero := by
  rw [driftSel_raw, toDispCoords_mask mask h3 _ (corrected_wf h h3 (some mask)).rect_absPos,
    corrected_roundtrip h h3 hsmall]
  intro v hv
  obtain ⟨_, hg, rfl⟩ := List.mem_map.mp hv
  obtain ⟨f, hf, rfl⟩ := List.mem_map.mp hg
  exact corrected_residual h h3 hsel f hf

/-- **C13 (idempotent)**: applying the correction again changes nothing. -/
theorem idempotent (n : Nat) (mask : List Bool) (s : TState) (h : G.C15.WF n s) (h3 : 3 ∣ n)
    (hsel : NonEmptySel mask n) (hsmall : SmallSteps mask s) :
    absPos (applyDrift (some mask) (applyDrift (some mask) s).2).2 = absPos (applyDrift (some mask) s).2 := by
  rw [applyDrift_fixed h h3 hsel hsmall]

/-- without `SmallSteps` the statement fails: reference atom steps +3/8, the other atom −3/8, so the
corrected step of the second atom is −3/4, which positions modulo 1 turn into +1/4 -/
theorem small_steps_needed :
    let s := fresh [[0, 0, 0, 0, 0, 0], [3/8, 0, 0, -3/8, 0, 0]]
    let c1 := (applyDrift (some [true, false]) s).2
    let c2 := (applyDrift (some [true, false]) c1).2
    c1.coords ≠ c2.coords := by
  decide +kernel

/-- two reference atoms moving differently, one floating atom: a non-zero drift, gone after the correction -/
example :
    let s := fresh [[1/8, 0, 0, 1/2, 0, 0, 7/8, 0, 0], [1/4, 0, 0, 1/2, 0, 0, 1/8, 0, 0]]
    (driftSel [true, true, false] s).2 = [V3.zero, ⟨1/16, 0, 0⟩] ∧
    absPos (applyDrift (some [true, true, false]) s).2
      = [[1/8, 0, 0, 1/2, 0, 0, 7/8, 0, 0], [3/16, 0, 0, 7/16, 0, 0, 1/16, 0, 0]] ∧
    (driftSel [true, true, false] (applyDrift (some [true, true, false]) s).2).2 = [V3.zero, V3.zero] := by
  decide +kernel

end G.C13
