import GGen.FormulasC05
import Mathlib.Tactic.Ring
import Mathlib.Tactic.FieldSimp
/-!
# C05 — obligations on the slice regenerated from `jumps.py` (GGen/FormulasC05.lean; see DESIGN 12.8):
`Jumps.jump_diffusivity`, `Jumps.rates`, the split into time parts, and the edges of `Jumps.to_graph`
-/
namespace G.C05Gen
open G

theorem jumpDiffusivity_eq (s a dims n t : ℚ) :
    Gen.jumpDiffusivity s a dims n t = s * a ^ 2 / (2 * dims * n * t) := by
  unfold Gen.jumpDiffusivity
  ring

/-- additive over jumps: the diffusivity of a union of jump sets is the sum -/
theorem jumpDiffusivity_add (s₁ s₂ a dims n t : ℚ) :
    Gen.jumpDiffusivity (s₁ + s₂) a dims n t = Gen.jumpDiffusivity s₁ a dims n t + Gen.jumpDiffusivity s₂ a dims n t := by
  unfold Gen.jumpDiffusivity
  ring

theorem rateMean_eq (m sd nF T P : ℚ) : Gen.rateMean m sd nF T P = m / (nF * (T / P)) := by
  unfold Gen.rateMean
  ring

theorem rateStd_eq (m sd nF T P : ℚ) : Gen.rateStd m sd nF T P = sd / (nF * (T / P)) := by
  unfold Gen.rateStd
  ring

/-- rate × number of diffusing atoms × total time = sum of the per-part counts (`m` = their mean over `P` parts) -/
theorem rateMean_times_time (total nF T P sd : ℚ) (hn : nF ≠ 0) (hT : T ≠ 0) (hP : P ≠ 0) :
    Gen.rateMean (total / P) sd nF T P * (nF * T) = total := by
  unfold Gen.rateMean
  field_simp

/-- the time parts are analysed with the same conversion method and minimal residence as the whole -/
theorem split_forwards_settings : Gen.splitForwardsSettings = true := by
  rfl

theorem jump_distances_in_simulation_cell : Gen.jumpDistancesInSimulationCell = true := by
  rfl

theorem effRate_eq (n o t l k q lo hi : ℚ) : Gen.effRate n o t l k q lo hi = n / (o * t) := by
  unfold Gen.effRate
  ring

/-- the stored edge attribute is −ln(rate / ν) · k_B T / e, i.e. in electron-volt -/
theorem edgeEnergy_eq (n o t l k q lo hi : ℚ) : Gen.edgeEnergy n o t l k q lo hi = -(l * k) / q := by
  unfold Gen.edgeEnergy
  ring

/-- an edge is kept exactly when the STORED energy (the value in eV) lies within the limits -/
theorem edgeKept_iff (n o t l k q lo hi : ℚ) :
    Gen.edgeKept n o t l k q lo hi = true ↔
      lo ≤ Gen.edgeEnergy n o t l k q lo hi ∧ Gen.edgeEnergy n o t l k q lo hi ≤ hi := by
  -- however the test spells the stored energy, in either comparison: `ring` identifies it with `edgeEnergy`
  have key : ∀ x x' y : ℚ, x = y → x' = y → (lo ≤ x ∧ x' ≤ hi ↔ lo ≤ y ∧ y ≤ hi) := by
    intro x x' y e e'
    rw [e, e']
  unfold Gen.edgeKept
  rw [decide_eq_true_eq]
  exact key _ _ _ (by unfold Gen.edgeEnergy; ring) (by unfold Gen.edgeEnergy; ring)

end G.C05Gen
