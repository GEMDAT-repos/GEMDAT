import GGen.FormulasC20
/-!
# C20 — obligations on the slice regenerated from /repo's source (GGen/FormulasC20.lean): the `weak_lru_cache` decorator
and the set of methods it is applied to

The flags record that the decorator still has the shape `GModel.Memo` models (a memo keyed on (weak reference to the
object, arguments) that stores results only).  The list pins WHICH methods are cached: `C20.no_leak` assumes that cached
results hold no strong reference to any object, which is a property of each method's return value; what was audited by
hand, for the methods listed in `auditedValueMethods` (arrays, numbers, data frames, dictionaries, graphs of plain
indices), is that the result holds none to the object it was computed for.
-/
namespace G.C20Gen
open G

theorem memo_is_lru_on_weak_reference : Gen.memoIsLruOnWeakReference = true := rfl

theorem memo_stores_only_results : Gen.memoStoresOnlyResults = true := rfl

theorem cache_capacity_pos : 0 < Gen.cacheCapacity := by decide

def auditedValueMethods : List String :=
  ["collective.Collective.site_pair_count_matrix", "collective.Collective.site_pair_count_matrix_labels",
   "collective.Collective.multiple_collective", "jumps.Jumps.jump_diffusivity", "jumps.Jumps.matrix",
   "jumps.Jumps.activation_energies", "jumps.Jumps.counter", "jumps.Jumps._counter", "jumps.Jumps.to_graph", "jumps.Jumps.rates",
   "metrics.TrajectoryMetrics.speed", "metrics.TrajectoryMetrics.particle_density", "metrics.TrajectoryMetrics.mol_per_liter",
   "metrics.TrajectoryMetrics.tracer_diffusivity", "metrics.TrajectoryMetrics.tracer_diffusivity_center_of_mass",
   "metrics.TrajectoryMetrics.haven_ratio", "metrics.TrajectoryMetrics.tracer_conductivity",
   "metrics.TrajectoryMetrics.attempt_frequency", "metrics.TrajectoryMetrics.vibration_amplitude",
   "metrics.TrajectoryMetrics.amplitudes", "transitions.Transitions.matrix", "transitions.Transitions.states_next",
   "transitions.Transitions.states_prev"]

/-- the one cached method whose result DOES store its object (`Collective.jumps`): the recorded known finding D14 -/
def knownLeakingMethods : List String := ["jumps.Jumps.collective"]

/-- a newly cached method has to be audited first -/
theorem cached_methods_audited : ∀ m ∈ Gen.cachedMethods, m ∈ auditedValueMethods ∨ m ∈ knownLeakingMethods := by
  -- each method is searched for and FOUND (`"m" = "m"`); `decide` would also compare it with every other name, and a
  -- comparison of two different strings costs about 10k heartbeats in the kernel
  simp only [Gen.cachedMethods, List.forall_mem_cons, List.not_mem_nil, false_imp_iff, implies_true, and_true]
  simp only [auditedValueMethods, knownLeakingMethods, List.mem_cons, true_or, or_true, and_self]

end G.C20Gen
