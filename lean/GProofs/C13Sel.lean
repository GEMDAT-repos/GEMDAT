import GModel.Labels
/-!
# C13 (continued) — naming the floating species is equivalent to naming all other species as fixed
-/
namespace G.C13Sel
open G G.Labels

theorem others_contains (names species : List String) (s : String) (hs : s ∈ species) :
    (others names species).contains s = !names.contains s := by
  rw [Bool.eq_iff_iff, List.contains_iff_mem, others, List.mem_filter]
  exact and_iff_right hs

theorem floating_eq_fixed_others (names species : List String) :
    floatingMask names species = fixedMask (others names species) species :=
  List.map_congr_left fun s hs => (others_contains names species s hs).symm

theorem fixed_eq_floating_others (names species : List String) :
    fixedMask names species = floatingMask (others names species) species :=
  List.map_congr_left fun s hs => by rw [others_contains names species s hs, Bool.not_not]

/-- selection is by whole symbol: with species S, Si the name "Si" does not select S -/
example : fixedMask ["Si"] ["S", "Si", "Li"] = [false, true, false] := by decide
example : floatingMask ["Na"] ["N", "O", "Na"] = [true, true, false] := by decide

theorem mask_length (names species : List String) :
    (fixedMask names species).length = species.length ∧ (floatingMask names species).length = species.length :=
  ⟨List.length_map .., List.length_map ..⟩

end G.C13Sel
