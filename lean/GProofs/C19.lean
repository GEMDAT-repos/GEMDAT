import GModel.Split
import GModel.Jumps
import GProofs.Machine
/-!
# C19 — time partitioning conserves states and events

Each of the three splits is proved on the model of the numpy call that makes it; `_split_transitions_events`
(`binEvents`) for ANY non-decreasing bin vector.

Jump counts: every part restarts the event → jump machine, so the claim compares `run` from a fresh state with `run`
continued from any state on the same later chunk of events.  The simulation `Sim` keeps the continued run's output a
multiset extension of the fresh one's (`run_append_ge`), for every minimal residence, inner-site mode included.
-/
namespace G.C19
open G.Split G.Events G.Jumps

theorem arraySplitSizes_length (n k : Nat) : (arraySplitSizes n k).length = k := by
  simp [arraySplitSizes]

theorem sum_range_aux (c r k : Nat) :
    ((List.range k).map (fun (j : Nat) => c + (if j < r then 1 else 0))).sum = k * c + min r k := by
  induction k with
  | zero => simp
  | succ k ih =>
    rw [List.range_succ, List.map_append, List.sum_append, ih, Nat.succ_mul]
    simp only [List.map_cons, List.map_nil, List.sum_cons, List.sum_nil]
    split <;> omega

theorem arraySplitSizes_sum (n k : Nat) (hk : 0 < k) : (arraySplitSizes n k).sum = n := by
  unfold arraySplitSizes
  rw [sum_range_aux, Nat.min_eq_left (Nat.le_of_lt (Nat.mod_lt n hk))]
  exact Nat.div_add_mod n k

theorem arraySplitSizes_bounds (n k : Nat) (s : Nat) (hs : s ∈ arraySplitSizes n k) :
    n / k ≤ s ∧ s ≤ n / k + 1 := by
  unfold arraySplitSizes at hs
  rw [List.mem_map] at hs
  obtain ⟨j, _, rfl⟩ := hs
  split <;> omega

theorem chunks_length {α : Type} (ss : List Nat) (l : List α) : (chunks ss l).length = ss.length := by
  induction ss generalizing l with
  | nil => rfl
  | cons s ss ih => exact congrArg (· + 1) (ih _)

theorem chunks_flatten {α : Type} (ss : List Nat) (l : List α) : (chunks ss l).flatten = l.take ss.sum := by
  induction ss generalizing l with
  | nil => simp [chunks]
  | cons s ss ih => rw [chunks, List.flatten_cons, List.sum_cons, ih, List.take_add]

theorem arraySplit_length {α : Type} (k : Nat) (l : List α) : (arraySplit k l).length = k := by
  simp [arraySplit, chunks_length, arraySplitSizes_length]

/-- **C19 (states)**: the parts concatenate to the original. -/
theorem arraySplit_flatten {α : Type} (k : Nat) (hk : 0 < k) (l : List α) :
    (arraySplit k l).flatten = l := by
  unfold arraySplit
  rw [chunks_flatten, arraySplitSizes_sum _ _ hk, List.take_length]

/-- non-decreasing boundary vector -/
def Mono : List Int → Prop
  | a :: b :: r => a ≤ b ∧ Mono (b :: r)
  | _ => True

theorem pairwise_eq_zip : ∀ l : List Int, pairwise l = l.zip l.tail
  | [] | [_] => rfl
  | a :: b :: r => congrArg ((a, b) :: ·) (pairwise_eq_zip (b :: r))

theorem getElem?_pairwise {l : List Int} {j : Nat} {p : Int × Int} :
    (pairwise l)[j]? = some p ↔ l[j]? = some p.1 ∧ l[j + 1]? = some p.2 := by
  rw [pairwise_eq_zip, List.getElem?_zip_eq_some, List.getElem?_tail]

theorem pairwise_length (l : List Int) : (pairwise l).length = l.length - 1 := by
  rw [pairwise_eq_zip, List.length_zip, List.length_tail]; omega

theorem mono_iff : ∀ l : List Int, Mono l ↔ ∀ p ∈ pairwise l, p.1 ≤ p.2
  | [] | [_] => ⟨fun _ _ h => (nomatch h), fun _ => trivial⟩
  | a :: b :: r => by rw [Mono, pairwise, List.forall_mem_cons, mono_iff (b :: r)]

theorem mono_head_le (r : List Int) (b : Int) (hm : Mono (b :: r)) : ∀ x ∈ b :: r, b ≤ x := by
  induction r generalizing b with
  | nil => intro x hx; rw [List.mem_singleton.mp hx]; exact Int.le_refl _
  | cons c rest ih =>
    intro x hx
    rcases List.mem_cons.mp hx with rfl | hx
    · exact Int.le_refl _
    · exact Int.le_trans hm.1 (ih c hm.2 x hx)

theorem filter_split {α : Type} (p q r : α → Bool) (hr : ∀ x, r x = (p x || q x))
    (hd : ∀ x, ¬ (p x = true ∧ q x = true)) (l : List α) :
    (l.filter p).length + (l.filter q).length = (l.filter r).length := by
  induction l with
  | nil => rfl
  | cons x xs ih =>
    rw [List.filter_cons, List.filter_cons, List.filter_cons, hr x]
    cases hp : p x <;> cases hq : q x
    · simpa using ih
    · simp; omega
    · simp; omega
    · exact absurd ⟨hp, hq⟩ (hd x)

theorem binEvents_length (bins times : List Int) :
    (binEvents bins times).length = bins.length - 1 := by
  simp [binEvents, pairwise_length]

/-- **C19 (events, exactly once)**: the part sizes add up to the number of events whose time lies in
`[first, last)` — no event is duplicated or dropped. -/
theorem binEvents_count (b0 : Int) (bins : List Int) (hm : Mono (b0 :: bins)) (times : List Int) :
    ((binEvents (b0 :: bins) times).map List.length).sum
      = (times.filter (fun t => decide (b0 ≤ t) && decide (t < (b0 :: bins).getLast (by simp)))).length := by
  induction bins generalizing b0 with
  | nil =>
    -- no part, and `[b0, b0)` is empty
    refine (List.length_eq_zero_iff.mpr (List.filter_eq_nil_iff.mpr fun t _ h => ?_)).symm
    rw [Bool.and_eq_true] at h
    exact absurd (of_decide_eq_true h.2) (Int.not_lt.mpr (of_decide_eq_true h.1))
  | cons b1 rest ih =>
    -- `[b0, b1)` and `[b1, last)` split `[b0, last)`, since `b0 ≤ b1 ≤ last`
    have hlast := mono_head_le rest b1 hm.2 _ (List.getLast_mem (by simp))
    have hb : binEvents (b0 :: b1 :: rest) times
        = ((times.filter (fun t => decide (b0 ≤ t) && decide (t < b1))).map (fun t => t - b0))
          :: binEvents (b1 :: rest) times := rfl
    rw [hb, List.map_cons, List.sum_cons, ih b1 hm.2, List.length_map, List.getLast_cons_cons]
    apply filter_split
    · intro t
      rw [Bool.eq_iff_iff]
      simp
      have := hm.1
      omega
    · intro t h
      simp at h
      omega

/-- … and an event time can be in at most one part: the bins are disjoint. -/
theorem pairwise_disjoint (bins : List Int) (hm : Mono bins) (t : Int) :
    ((pairwise bins).filter (fun p => decide (p.1 ≤ t) && decide (t < p.2))).length ≤ 1 := by
  fun_induction pairwise bins with
  | case1 a b r ih =>
    rw [List.filter_cons]
    split
    · rename_i hc
      -- `t < b`, and every later part starts at `b` or beyond
      have : (pairwise (b :: r)).filter (fun p => decide (p.1 ≤ t) && decide (t < p.2)) = [] := by
        rw [List.filter_eq_nil_iff]
        intro p hp
        have := mono_head_le r b hm.2 p.1 (List.of_mem_zip (pairwise_eq_zip _ ▸ hp)).1
        simp only [Bool.and_eq_true, decide_eq_true_eq] at hc ⊢
        omega
      rw [this]; exact Nat.le_refl 1
    · exact ih hm.2
  | case2 => exact Nat.zero_le 1

/-- **C19 (re-basing)**: every re-based time is a non-negative offset inside its part. -/
theorem binEvents_range (bins times : List Int) (j : Nat) (p : Int × Int) (part : List Int)
    (hp : (pairwise bins)[j]? = some p) (hpart : (binEvents bins times)[j]? = some part) :
    ∀ x ∈ part, 0 ≤ x ∧ x < p.2 - p.1 := by
  unfold binEvents at hpart
  rw [List.getElem?_map, hp] at hpart
  simp only [Option.map_some, Option.some.injEq] at hpart
  subst hpart
  intro x hx
  simp only [List.mem_map, List.mem_filter, Bool.and_eq_true, decide_eq_true_eq] at hx
  omega

/-- **C19 (trajectory parts)**: consecutive parts share their boundary — contiguous, non-overlapping. -/
theorem trajParts_contiguous (iv : List Int) (j : Nat) (p q : Int × Int)
    (hp : (trajParts iv)[j]? = some p) (hq : (trajParts iv)[j + 1]? = some q) : p.2 = q.1 :=
  Option.some.inj ((getElem?_pairwise.mp hp).2.symm.trans (getElem?_pairwise.mp hq).1)

theorem trajParts_ordered (iv : List Int) (hm : Mono iv) :
    (∀ p ∈ trajParts iv, p.1 ≤ p.2) ∧
    (∀ j p q, (trajParts iv)[j]? = some p → (trajParts iv)[j + 1]? = some q → p.1 ≤ q.1) :=
  ⟨(mono_iff iv).mp hm, fun j p q hp hq =>
    trajParts_contiguous iv j p q hp hq ▸ (mono_iff iv).mp hm p (List.mem_of_getElem? hp)⟩

theorem trajParts_length (iv : List Int) : (trajParts iv).length = iv.length - 1 :=
  pairwise_length iv

theorem trajPartsEqual_same_length (iv : List Int) (len : Int) (p q : Int × Int)
    (hp : p ∈ trajPartsEqual iv len) (hq : q ∈ trajPartsEqual iv len) : p.2 - p.1 = q.2 - q.1 := by
  simp only [trajPartsEqual, List.mem_map] at hp hq
  obtain ⟨a, _, rfl⟩ := hp
  obtain ⟨b, _, rfl⟩ := hq
  omega

theorem foldl_min_le (ps : List (Int × Int)) (acc : Int) :
    ps.foldl (fun acc p => min acc (p.2 - p.1)) acc ≤ acc ∧
    ∀ p ∈ ps, ps.foldl (fun acc p => min acc (p.2 - p.1)) acc ≤ p.2 - p.1 := by
  induction ps generalizing acc with
  | nil => simp
  | cons x xs ih =>
    obtain ⟨h1, h2⟩ := ih (min acc (x.2 - x.1))
    refine ⟨by rw [List.foldl_cons]; omega, fun p hp => ?_⟩
    rcases List.mem_cons.mp hp with rfl | hp
    · rw [List.foldl_cons]; omega
    · exact h2 p hp

theorem trajPartsEqual_inside (iv : List Int) (len : Int) (j : Nat) (p q : Int × Int)
    (hp : (trajParts iv)[j]? = some p) (hq : (trajPartsEqual iv len)[j]? = some q) :
    q.1 = p.1 ∧ q.2 ≤ p.2 := by
  unfold trajParts at hp
  simp only [trajPartsEqual, List.getElem?_map, hp, Option.map_some, Option.some.injEq] at hq
  subst hq
  have := (foldl_min_le (pairwise iv) len).2 p (List.mem_of_getElem? hp)
  exact ⟨rfl, Int.add_le_of_le_sub_left this⟩

/-- `a` contains `base ++ b` as a multiset (with `List.Perm`, which core Lean has; the rest in front, so that
appending to `a` and `b` alike is associativity) -/
def Ext (base a b : List Jump) : Prop := ∃ extra : List Jump, a.Perm (extra ++ (base ++ b))

theorem ext_snoc_left {base a b : List Jump} {c : Jump} (h : Ext base a b) : Ext base (a ++ [c]) b :=
  h.elim fun ex h => ⟨c :: ex, List.perm_append_comm.trans (h.cons c)⟩

theorem ext_snoc_both {base a b : List Jump} {j : Jump} (h : Ext base a b) : Ext base (a ++ [j]) (b ++ [j]) :=
  h.elim fun ex h => ⟨ex, by simpa only [List.append_assoc] using h.append_right [j]⟩

/-- simulation: `A` started from some state with output `base`, `B` started fresh; until the first leave event
`B` holds neither `fromevent` nor candidate -/
def Sim (base : List Jump) (A B : St) : Prop :=
  ((B.frm = none ∧ B.cand = none) ∨ A.frm = B.frm) ∧
  (B.cand = none ∨ A.cand = B.cand) ∧ Ext base A.out B.out

theorem blk23b_sim {base : List Jump} {frm : Option Event} (e : Event) {ca cb : Option Jump} {oa ob : List Jump}
    (hc : cb = none ∨ ca = cb) (ho : Ext base oa ob) :
    Sim base (blk23b frm ca oa e) (blk23b frm cb ob e) := by
  rcases blk23b_cases frm e with ⟨_, hb⟩ | hb | ⟨j, hb⟩ | ⟨j, hb⟩ <;> rw [hb, hb]
  · exact ⟨Or.inr rfl, hc, ho⟩
  · exact ⟨Or.inr rfl, Or.inl rfl, ho⟩
  · exact ⟨Or.inr rfl, Or.inl rfl, ext_snoc_both ho⟩
  · exact ⟨Or.inr rfl, Or.inr rfl, ho⟩

theorem blk23b_out_ext {base : List Jump} {frm : Option Event} (e : Event) {c : Option Jump} {oa b : List Jump}
    (ho : Ext base oa b) :
    Ext base (blk23b frm c oa e).out b := by
  rcases blk23b_cases frm e with ⟨_, hb⟩ | hb | ⟨j, hb⟩ | ⟨j, hb⟩ <;> rw [hb]
  · exact ho
  · exact ho
  · exact ext_snoc_left ho
  · exact ho

theorem blk1_sim {base : List Jump} (mr : Int) (e : Event) {ca cb : Option Jump} {oa ob : List Jump}
    (hc : cb = none ∨ ca = cb) (ho : Ext base oa ob) :
    ((blk1 mr cb ob e).1 = none ∨ (blk1 mr ca oa e).1 = (blk1 mr cb ob e).1) ∧
    Ext base (blk1 mr ca oa e).2 (blk1 mr cb ob e).2 := by
  rcases hc with rfl | rfl
  · refine ⟨Or.inl rfl, ?_⟩
    rcases blk1_cases mr ca e with h | h | ⟨c, -, h⟩ <;> rw [h]
    · exact ho
    · exact ho
    · exact ext_snoc_left ho
  · rcases blk1_cases mr ca e with h | h | ⟨c, -, h⟩ <;> rw [h, h]
    · exact ⟨Or.inr rfl, ho⟩
    · exact ⟨Or.inl rfl, ho⟩
    · exact ⟨Or.inl rfl, ext_snoc_both ho⟩

theorem step_sim (base : List Jump) (mr : Int) (A B : St) (e : Event) (h : Sim base A B) :
    Sim base (step mr A e) (step mr B e) := by
  obtain ⟨hf, hc, ho⟩ := h
  have hb := blk1_sim mr e hc ho
  rw [step_eq, step_eq]
  rcases hf with ⟨hBf, hBc⟩ | hf
  · by_cases hl : e.s0 ≠ -1 ∧ e.s0 ≠ e.s1
    · rw [if_pos hl, if_pos hl]
      exact blk23b_sim e hb.1 hb.2
    · rw [if_neg hl, if_neg hl, hBf]
      rw [hBc] at hb ⊢
      exact ⟨Or.inl ⟨rfl, rfl⟩, Or.inl rfl, blk23b_out_ext e hb.2⟩
  · rw [hf]
    exact blk23b_sim e hb.1 hb.2

theorem run_append_ge (mr : Int) (es : List Event) (st : St) :
    ∃ extra : List Jump, ((run mr st es).out).Perm (extra ++ (st.out ++ (run mr St.init es).out)) :=
  (run_rel (step_sim st.out mr) es (a := st) (b := St.init)
    ⟨Or.inl ⟨rfl, rfl⟩, Or.inl rfl, [], by simp [St.init]⟩).2.2

/-- **C19 (jump counts)**: cutting one atom's events into two consecutive chunks and restarting
the machine on the second never yields more jumps than the uncut run, for every residence. -/
theorem jumps_split_subadditive (mr : Int) (es1 es2 : List Event) :
    (run mr St.init es1).out.length + (run mr St.init es2).out.length
      ≤ (run mr St.init (es1 ++ es2)).out.length := by
  obtain ⟨extra, h⟩ := run_append_ge mr es2 (run mr St.init es1)
  rw [run_append, h.length_eq]
  simp only [List.length_append]
  omega

def shiftE (k : Nat) (e : Event) : Event := { e with t := e.t + k }
def shiftJ (k : Nat) (j : Jump) : Jump := { j with t0 := j.t0 + k, t1 := j.t1 + k }

/-- the machine does not care about the time origin, so re-basing the times of a part does not change its jump count
(`shiftE k = Event.move id k`, `shiftJ k = Jump.move id k` and `St.init.move id k = St.init` by `rfl`) -/
theorem run_shift (mr : Int) (k : Nat) (es : List Event) :
    (run mr St.init (es.map (shiftE k))).out = ((run mr St.init es).out).map (shiftJ k) :=
  congrArg St.out (run_move Function.injective_id k rfl mr es St.init)

/-- a split that really loses the jump spanning the cut -/
example :
    let es := eventsAlgo [0, -1, 1, 1, -1, 2] [0, -1, 1, 1, -1, 2]
    (run 0 St.init es).out.length = 2 ∧
    (run 0 St.init (es.take 1)).out.length + (run 0 St.init (es.drop 1)).out.length = 1 := by decide

example : arraySplitSizes 10 3 = [4, 3, 3] ∧ binEvents [0, 5, 11] [0, 4, 5, 10] = [[0, 4], [0, 5]] := by decide

end G.C19
