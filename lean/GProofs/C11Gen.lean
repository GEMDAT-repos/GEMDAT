import GGen.FormulasC11
import Mathlib.Tactic.Ring
import Mathlib.Tactic.Positivity
/-!
# C11 — obligations on the formula slice regenerated from /repo's source (GGen/FormulasC11.lean):
the shell normalisation of `radial_distribution_between_species`

`pi` is a parameter (any positive number); the statements are the algebra of the ideal-gas shell count.
-/
namespace G.C11Gen
open G

/-- density × volume of the spherical shell [r, r + Δ) -/
theorem shellNorm_eq (r res rho pi : ℚ) :
    Gen.shellNorm r res rho pi = rho * (4 / 3 * pi * ((r + res) ^ 3 - r ^ 3)) := by
  unfold Gen.shellNorm
  ring

/-- the division by it is defined -/
theorem shellNorm_pos (r res rho pi : ℚ) (hr : 0 ≤ r) (hres : 0 < res) (hrho : 0 < rho) (hpi : 0 < pi) :
    0 < Gen.shellNorm r res rho pi := by
  rw [shellNorm_eq]
  have h3 : 0 < (r + res) ^ 3 - r ^ 3 := by
    have e : (r + res) ^ 3 - r ^ 3 = res * (3 * r ^ 2 + 3 * r * res + res ^ 2) := by ring
    rw [e]
    have : 0 ≤ r * res := mul_nonneg hr hres.le
    positivity
  positivity

/-- consecutive shells tile the ball -/
theorem shellNorm_add (r res rho pi : ℚ) :
    Gen.shellNorm r res rho pi + Gen.shellNorm (r + res) res rho pi = Gen.shellNorm r (2 * res) rho pi := by
  unfold Gen.shellNorm
  ring

/-- twice as many second-species atoms, twice the ideal-gas count -/
theorem shellNorm_density (c r res rho pi : ℚ) : Gen.shellNorm r res (c * rho) pi = c * Gen.shellNorm r res rho pi := by
  unfold Gen.shellNorm
  ring

theorem particleVol_eq (n vol : ℚ) : Gen.particleVol n vol = n / vol := by
  unfold Gen.particleVol
  ring

end G.C11Gen
