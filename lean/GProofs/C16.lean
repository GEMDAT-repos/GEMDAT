import GModel.CacheFile
import GGen.CacheKeys
/-!
# C16 — trajectory caching is faithful and survives an interrupted cache write

Hypotheses about the codec (checked on real pickle files by the harness at every tested prefix length, which is all
of them in the thorough tier): `RoundTrip` and `PrefixFree`.  Hypothesis about the loader: `Keyed` (without it a stale
trajectory is returned, defect D11).  The invariant speaks of one file at a time (`All (FileOK L)`); `All.put / .del`
carry such a property through loads and faults.  The obligations `*_used_subset_keyed` at the end, one per loader,
say that every parameter the parser reads reaches the default cache file name.
-/
namespace G.C16
open G G.Cache

variable {Args Val : Type}

def RoundTrip (L : Loader Args Val) : Prop := ∀ v, L.decode (L.encode v) = some v

/-- a proper prefix of an encoding never decodes (what an interrupted write leaves) -/
def PrefixFree (L : Loader Args Val) : Prop := ∀ v k, k < (L.encode v).length → L.decode ((L.encode v).take k) = none

/-- the parse result is determined by the cache-file name: every option the parser reads is keyed -/
def Keyed (L : Loader Args Val) : Prop := ∀ a b, L.name a = L.name b → L.parse a = L.parse b

/-- faults we model: truncations (any length), deletions, and content that does not decode -/
def FaultOK (L : Loader Args Val) : Fault → Prop
  | .garbage _ c => L.decode c = none
  | _ => True

def StepOK (L : Loader Args Val) : Step Args → Prop
  | .fault f => FaultOK L f
  | .load _ => True

/-- file-system invariant: whatever decodes is the parse result of the arguments that name that file -/
def FSInv (L : Loader Args Val) (fs : FS) : Prop :=
  ∀ a b, fs.get (L.name a) = some b → ∀ v, L.decode b = some v → v = L.parse a

theorem get_put_same (fs : FS) (n : Nat) (b : Bytes) : (fs.put n b).get n = some b := by
  simp [FS.get, FS.put]

theorem get_del_same (fs : FS) (n : Nat) : (fs.del n).get n = none := by
  simp [FS.get, FS.del, List.find?_eq_none]

theorem get_del_other (fs : FS) {m n : Nat} (h : m ≠ n) : (fs.del n).get m = fs.get m := by
  unfold FS.get FS.del
  rw [List.find?_filter]
  congr 2
  funext p
  by_cases hpm : p.1 = m <;> simp [hpm, h]

theorem get_put_other (fs : FS) {m n : Nat} (b : Bytes) (h : m ≠ n) : (fs.put n b).get m = fs.get m := by
  rw [← get_del_other fs h]
  show (List.find? _ ((n, b) :: fs.del n)).map _ = _
  exact congrArg _ (List.find?_cons_of_neg (by simpa using h.symm))

theorem load_fresh (L : Loader Args Val) (fs : FS) (a : Args) (h : fs.get (L.name a) = none) :
    load L fs a = (L.parse a, fs.put (L.name a) (L.encode (L.parse a)), false) := by
  simp [load, h]

theorem load_undecodable (L : Loader Args Val) (fs : FS) (a : Args) (b : Bytes)
    (h : fs.get (L.name a) = some b) (hd : L.decode b = none) :
    load L fs a = (L.parse a, fs.put (L.name a) (L.encode (L.parse a)), false) := by
  simp [load, h, hd]

theorem load_hit (L : Loader Args Val) (fs : FS) (a : Args) (b : Bytes) (v : Val)
    (h : fs.get (L.name a) = some b) (hd : L.decode b = some v) :
    load L fs a = (v, fs, true) := by
  simp [load, h, hd]

theorem load_cases (L : Loader Args Val) (fs : FS) (a : Args) :
    (∃ b v, fs.get (L.name a) = some b ∧ L.decode b = some v ∧ load L fs a = (v, fs, true)) ∨
    load L fs a = (L.parse a, fs.put (L.name a) (L.encode (L.parse a)), false) := by
  cases h : fs.get (L.name a) with
  | none => exact .inr (load_fresh L fs a h)
  | some b =>
    cases hd : L.decode b with
    | none => exact .inr (load_undecodable L fs a b h hd)
    | some v => exact .inl ⟨b, v, rfl, hd, load_hit L fs a b v h hd⟩

/-- **C16 (one load)**: a load returns `parse args` and leaves a complete cache file of that value behind. -/
theorem load_correct (L : Loader Args Val) (hrt : RoundTrip L) (fs : FS) (a : Args) (hinv : FSInv L fs) :
    (load L fs a).1 = L.parse a ∧
    (∃ b, (load L fs a).2.1.get (L.name a) = some b ∧ L.decode b = some (L.parse a)) := by
  rcases load_cases L fs a with ⟨b, v, hg, hd, hl⟩ | hl <;> rw [hl]
  · cases hinv a b hg v hd
    exact ⟨rfl, b, hg, hd⟩
  · exact ⟨rfl, _, get_put_same _ _ _, hrt _⟩

/-!
Under `FaultOK` / `FSShape` ("every file is a complete encoding or undecodable") the invariant is
not stable under truncation: truncating an undecodable file leaves a prefix of it, and nothing
prevents that prefix from decoding to an arbitrary value.  So the two statements

```
theorem fault_preserves_inv (L : Loader Args Val) (hrt : RoundTrip L) (hpf : PrefixFree L) (fs : FS) (f : Fault)
    (hf : FaultOK L f) (hinv : FSInv L fs)
    (henc : ∀ n b, fs.get n = some b → (∃ v, b = L.encode v) ∨ L.decode b = none) :
    FSInv L (applyFault fs f)

theorem load_correct_any_faults (L : Loader Args Val) (hrt : RoundTrip L) (hpf : PrefixFree L) (hk : Keyed L)
    (steps : List (Step Args)) (hs : ∀ s ∈ steps, StepOK L s) :
    ∀ o ∈ (run L [] steps).2, o.2.1 = L.parse o.1
```

are false: the two `…_counterexample` theorems below refute them with the driver's codec.  The `…_partial` variants
ask that unreadable content has NO decodable prefix (`FaultOK'`, `FSShape'`), which is stable under every fault and
under loads.
-/

def FaultOK' (L : Loader Args Val) : Fault → Prop
  | .garbage _ c => ∀ k, L.decode (c.take k) = none
  | _ => True

def StepOK' (L : Loader Args Val) : Step Args → Prop
  | .fault f => FaultOK' L f
  | .load _ => True

def FSShape' (L : Loader Args Val) (fs : FS) : Prop :=
  ∀ n b, fs.get n = some b → (∃ v, b = L.encode v) ∨ ∀ k, L.decode (b.take k) = none

def FSShape (L : Loader Args Val) (fs : FS) : Prop :=
  ∀ n b, fs.get n = some b → (∃ v, b = L.encode v) ∨ L.decode b = none

theorem decode_of_noPrefix {L : Loader Args Val} {b : Bytes} (h : ∀ k, L.decode (b.take k) = none) :
    L.decode b = none :=
  List.take_length (l := b) ▸ h b.length

theorem FaultOK'.faultOK {L : Loader Args Val} {f : Fault} (h : FaultOK' L f) : FaultOK L f := by
  cases f with
  | garbage n c => exact decode_of_noPrefix h
  | _ => trivial

theorem FSShape'.shape {L : Loader Args Val} {fs : FS} (h : FSShape' L fs) : FSShape L fs :=
  fun n b hg => (h n b hg).imp_right decode_of_noPrefix

def All (Q : Nat → Bytes → Prop) (fs : FS) : Prop := ∀ n b, fs.get n = some b → Q n b

variable {Q : Nat → Bytes → Prop} {fs : FS}

theorem All.put (h : All Q fs) {n : Nat} {c : Bytes} (hc : Q n c) : All Q (fs.put n c) := by
  intro m b hg
  by_cases e : m = n
  · rw [e, get_put_same] at hg
    cases hg
    exact e ▸ hc
  · exact h m b (get_put_other fs c e ▸ hg)

theorem All.del (h : All Q fs) (n : Nat) : All Q (fs.del n) := by
  intro m b hg
  by_cases e : m = n
  · rw [e, get_del_same] at hg
    cases hg
  · exact h m b (get_del_other fs e ▸ hg)

def FileOK (L : Loader Args Val) (n : Nat) (b : Bytes) : Prop :=
  ((∃ v, b = L.encode v) ∨ ∀ k, L.decode (b.take k) = none) ∧
    ∀ a, L.name a = n → ∀ v, L.decode b = some v → v = L.parse a

theorem all_fileOK_iff (L : Loader Args Val) (fs : FS) : All (FileOK L) fs ↔ FSInv L fs ∧ FSShape' L fs :=
  ⟨fun h => ⟨fun a b hg => (h _ b hg).2 a rfl, fun n b hg => (h n b hg).1⟩,
   fun h n b hg => ⟨h.2 n b hg, fun a e => h.1 a b (e ▸ hg)⟩⟩

theorem fileOK_of_noPrefix (L : Loader Args Val) (n : Nat) {b : Bytes} (h : ∀ k, L.decode (b.take k) = none) :
    FileOK L n b :=
  ⟨.inr h, fun _ _ v hd => by rw [decode_of_noPrefix h] at hd; cases hd⟩

/-- a truncation that removes something leaves content without decodable prefix: by `PrefixFree` if the file was a
complete encoding, and because it had none before otherwise -/
theorem FileOK.take {L : Loader Args Val} (hpf : PrefixFree L) {n : Nat} {b : Bytes} (h : FileOK L n b) (k : Nat) :
    FileOK L n (b.take k) := by
  by_cases hk : b.length ≤ k
  · rwa [List.take_of_length_le hk]
  · refine fileOK_of_noPrefix L n fun j => ?_
    rw [List.take_take]
    rcases h.1 with ⟨v, rfl⟩ | hn
    · exact hpf v _ (Nat.lt_of_le_of_lt (Nat.min_le_right _ _) (Nat.lt_of_not_le hk))
    · exact hn _

theorem fault_ok (L : Loader Args Val) (hpf : PrefixFree L) (f : Fault) (hf : FaultOK' L f)
    (h : All (FileOK L) fs) : All (FileOK L) (applyFault fs f) := by
  cases f with
  | truncate n k =>
    rw [Cache.applyFault]
    cases hgn : fs.get n with
    | none => exact h
    | some b => exact h.put ((h n b hgn).take hpf k)
  | garbage n c => exact h.put (fileOK_of_noPrefix L n hf)
  | delete n => exact h.del n

theorem load_ok (L : Loader Args Val) (hrt : RoundTrip L) (hk : Keyed L) (a : Args)
    (h : All (FileOK L) fs) : All (FileOK L) (load L fs a).2.1 := by
  rcases load_cases L fs a with ⟨b, v, _, _, hl⟩ | hl <;> rw [hl]
  · exact h
  · exact h.put ⟨.inl ⟨_, rfl⟩, fun a' e v hd => by rw [hrt] at hd; cases hd; exact (hk a' a e).symm⟩

theorem run_correct (L : Loader Args Val) (hrt : RoundTrip L) (hpf : PrefixFree L) (hk : Keyed L)
    (steps : List (Step Args)) (fs : FS) (h : All (FileOK L) fs) (hs : ∀ s ∈ steps, StepOK' L s) :
    ∀ o ∈ (run L fs steps).2, o.2.1 = L.parse o.1 := by
  induction steps generalizing fs with
  | nil => nofun
  | cons s rest ih =>
    obtain ⟨hs, hrest⟩ := List.forall_mem_cons.1 hs
    cases s with
    | load a =>
      exact List.forall_mem_cons.2 ⟨(load_correct L hrt fs a ((all_fileOK_iff L fs).1 h).1).1,
        ih _ (load_ok L hrt hk a h) hrest⟩
    | fault f => exact ih _ (fault_ok L hpf f hs h) hrest

theorem fault_preserves_inv_partial (L : Loader Args Val) (hpf : PrefixFree L) (fs : FS) (f : Fault)
    (hf : FaultOK' L f) (hinv : FSInv L fs) (henc : FSShape' L fs) :
    FSInv L (applyFault fs f) :=
  ((all_fileOK_iff L _).1 (fault_ok L hpf f hf ((all_fileOK_iff L fs).2 ⟨hinv, henc⟩))).1

/-- **C16 (any fault history)**, `load_correct_any_faults` under `StepOK'`: starting from an
empty cache directory, for every sequence of loads and faults (truncation at any byte of whatever is
on disk, deletion, content without decodable prefix, repeated fault/recover cycles) every load
returns what parsing the source with its arguments returns. -/
theorem load_correct_any_faults_partial (L : Loader Args Val) (hrt : RoundTrip L) (hpf : PrefixFree L)
    (hk : Keyed L) (steps : List (Step Args)) (hs : ∀ s ∈ steps, StepOK' L s) :
    ∀ o ∈ (run L [] steps).2, o.2.1 = L.parse o.1 :=
  run_correct L hrt hpf hk steps [] nofun hs

/-- After a load the cache file of those arguments is complete: a following load is a hit
with the same value. -/
theorem load_then_hit (L : Loader Args Val) (hrt : RoundTrip L) (fs : FS) (a : Args) (hinv : FSInv L fs) :
    (load L (load L fs a).2.1 a) = (L.parse a, (load L fs a).2.1, true) := by
  obtain ⟨_, b, hg, hd⟩ := load_correct L hrt fs a hinv
  exact load_hit L _ a b _ hg hd

theorem encodeNat_roundtrip : ∀ v, decodeNat (encodeNat v) = some v := by
  simp [encodeNat, decodeNat]

theorem encodeNat_prefixFree : ∀ v k, k < (encodeNat v).length → decodeNat ((encodeNat v).take k) = none := by
  intro v k hk
  match k, hk with
  | 0, _ => rfl
  | 1, _ => rfl
  | 2, _ => rfl
  | 3, _ => rfl
  | k + 4, hk => exact absurd hk (by simp [encodeNat])

def cexLoader : Loader Nat Nat := ⟨fun a => a, fun a => a, encodeNat, decodeNat⟩

/-- counterexample to `fault_preserves_inv`: the file `[3,5,6,7,9]` does not decode,
so `FSInv` and the shape hypothesis hold, but its truncation to 4 bytes decodes to `5 ≠ parse 0`. -/
theorem fault_preserves_inv_counterexample :
    let L := cexLoader
    let fs : FS := [(0, [3, 5, 6, 7, 9])]
    let f : Fault := .truncate 0 4
    RoundTrip L ∧ PrefixFree L ∧ FaultOK L f ∧ FSInv L fs ∧
    (∀ n b, fs.get n = some b → (∃ v, b = L.encode v) ∨ L.decode b = none) ∧
    ¬ FSInv L (applyFault fs f) := by
  intro L fs f
  have hnone : ∀ n b, fs.get n = some b → L.decode b = none := by
    intro n b h
    cases n with
    | zero => cases h; rfl
    | succ n => cases h
  refine ⟨encodeNat_roundtrip, encodeNat_prefixFree, trivial, fun a b hg v hd => ?_,
    fun n b hg => .inr (hnone n b hg), fun h => absurd (h 0 [3, 5, 6, 7] rfl 5 rfl) (by decide)⟩
  rw [hnone _ b hg] at hd
  cases hd

/-- counterexample to `load_correct_any_faults`: unreadable content, then a truncation
of it, then a load — every step satisfies `StepOK`, yet the load returns `5` instead of `parse 0 = 0`. -/
theorem load_correct_any_faults_counterexample :
    let L := cexLoader
    let steps : List (Step Nat) := [.fault (.garbage 0 [3, 5, 6, 7, 9]), .fault (.truncate 0 4), .load 0]
    RoundTrip L ∧ PrefixFree L ∧ Keyed L ∧ (∀ s ∈ steps, StepOK L s) ∧
    ¬ (∀ o ∈ (run L [] steps).2, o.2.1 = L.parse o.1) := by
  intro L steps
  refine ⟨encodeNat_roundtrip, encodeNat_prefixFree, fun _ _ h => h, ?_,
    fun h => absurd (h (0, 5, true) (by decide)) (by decide)⟩
  intro s hs
  simp only [steps, List.mem_cons, List.not_mem_nil, or_false] at hs
  rcases hs with rfl | rfl | rfl
  · exact (rfl : decodeNat [3, 5, 6, 7, 9] = none)
  · trivial
  · trivial

/-- defect D11 (repaired): with an option the parser reads but the file name ignores
(`parse a = a`, `name a = a / 10`), the second load returns the first call's trajectory -/
theorem unkeyed_option_counterexample :
    let L : Loader Nat Nat := ⟨fun a => a, fun a => a / 10, encodeNat, decodeNat⟩
    (run L [] [.load 12, .load 13]).2 = [(12, 12, false), (13, 12, true)] := by
  decide

/-- parameters that do not influence the parsed trajectory (so they need not be keyed) -/
def neutral : List String := []

-- each parameter is searched for and found, not decided: comparing two different strings is slow in the kernel
theorem from_vasprun_used_subset_keyed :
    ∀ p ∈ G.Gen.from_vasprun_used, p ∈ G.Gen.from_vasprun_keyed ∨ p ∈ neutral := by
  simp only [G.Gen.from_vasprun_used, List.forall_mem_cons, List.not_mem_nil, false_imp_iff, implies_true, and_true]
  simp only [G.Gen.from_vasprun_keyed, List.mem_cons, true_or, or_true, and_self]

theorem from_lammps_used_subset_keyed :
    ∀ p ∈ G.Gen.from_lammps_used, p ∈ G.Gen.from_lammps_keyed ∨ p ∈ neutral := by
  simp only [G.Gen.from_lammps_used, List.forall_mem_cons, List.not_mem_nil, false_imp_iff, implies_true, and_true]
  simp only [G.Gen.from_lammps_keyed, List.mem_cons, true_or, or_true, and_self]

theorem from_gromacs_used_subset_keyed :
    ∀ p ∈ G.Gen.from_gromacs_used, p ∈ G.Gen.from_gromacs_keyed ∨ p ∈ neutral := by
  simp only [G.Gen.from_gromacs_used, List.forall_mem_cons, List.not_mem_nil, false_imp_iff, implies_true, and_true]
  simp only [G.Gen.from_gromacs_keyed, List.mem_cons, true_or, or_true, and_self]

end G.C16
