import GModel.Traj
import GProofs.C15
import GProofs.C13
/-!
# C13, rigid drift: adding a rigid, time-dependent translation before correcting changes nothing

`addDelta c Δ` adds the translation `Δ_t` to every atom of frame `t` (`Δ_0 = 0`).  If every minimum-image
step of the SOURCE trajectory plus the increment `Δ_t − Δ_{t−1}` of the translation stays below half a cell
(`SmallRaw`: positions modulo 1 cannot represent more), the corrected trajectory — stored displacements and
base positions — is the same as for the untranslated one.
-/
namespace G.C13
open G G.Traj G.C01

/-- add the same vector to every atom of a frame -/
def shiftFrame (f : Frame) (d : V3) : Frame := (toV3s f).flatMap (fun v => (v + d).toList)

def addDelta (c : List Frame) (delta : List V3) : List Frame := List.zipWith shiftFrame c delta

/-- per-frame increments of the injected translation: δ_0 = Δ_0, δ_t = Δ_t − Δ_{t−1} -/
def increments : V3 → List V3 → List V3
  | _, [] => []
  | prev, d :: ds => (d - prev) :: increments d ds

/-- every raw step of the source plus the injected increment stays strictly inside half a cell -/
def SmallRaw (c : List Frame) (delta : List V3) : Prop :=
  ∀ p ∈ List.zip (displacements (fresh c)).2 (increments V3.zero delta), ∀ v ∈ shiftFrame p.1 p.2, |v| < 1 / 2

theorem shiftFrame_eq (f : Frame) (d : V3) :
    shiftFrame f d = flat ((toV3s f).map (fun v => v + d)) :=
  (List.flatMap_map ..).symm

theorem length_shiftFrame (f : Frame) (d : V3) (h : 3 ∣ f.length) : (shiftFrame f d).length = f.length :=
  shiftFrame_eq f d ▸ length_flat_map _ f h

theorem v3_add_x (a b : V3) : (a + b).x = a.x + b.x := rfl
theorem v3_add_y (a b : V3) : (a + b).y = a.y + b.y := rfl
theorem v3_add_z (a b : V3) : (a + b).z = a.z + b.z := rfl

theorem v3_add_zero (v : V3) : v + V3.zero = v := V3.ext_coord fun π h => by rw [h.add, h.zero, add_zero]

theorem shiftFrame_zero (f : Frame) (h : 3 ∣ f.length) : shiftFrame f V3.zero = f :=
  (shiftFrame_eq f _).trans (flat_map_id v3_add_zero f h)

theorem addDelta_cons (f : Frame) (c : List Frame) (d : V3) (ds : List V3) :
    addDelta (f :: c) (d :: ds) = shiftFrame f d :: addDelta c ds := rfl

theorem addDelta_zero {n : Nat} (h3 : 3 ∣ n) {c : List Frame} (hr : Rect c n) :
    addDelta c (List.replicate c.length V3.zero) = c := by
  induction c with
  | nil => rfl
  | cons f c ih =>
    obtain ⟨hf, hr⟩ := rect_cons.mp hr
    rw [List.length_cons, List.replicate_succ, addDelta_cons, shiftFrame_zero f (hf ▸ h3), ih hr]

theorem rect_addDelta {n : Nat} (h3 : 3 ∣ n) {c : List Frame} (hr : Rect c n) (ds : List V3) :
    Rect (addDelta c ds) n := by
  intro g hg
  rw [addDelta, ← List.map_uncurry_zip_eq_zipWith] at hg
  obtain ⟨⟨f, d⟩, hp, rfl⟩ := List.mem_map.mp hg
  have hf := hr f (List.of_mem_zip hp).1
  exact (length_shiftFrame f d (hf ▸ h3)).trans hf

theorem cong_flat {X Y : List V3}
    (h : List.Forall₂ (fun u v : V3 => ∀ π, Coord π → ∃ k : ℤ, π u = π v + k) X Y) :
    G.C01.Cong (flat X) (flat Y) := by
  induction h with
  | nil => exact .nil
  | cons huv _ ih =>
    rw [flat_cons, flat_cons]
    exact .cons (huv _ .x) (.cons (huv _ .y) (.cons (huv _ .z) ih))

/-- one frame: the step between the wrapped translated positions is congruent to the raw minimum-image
step plus the increment of the translation (`wrap` and `minImg1` move every coordinate by an integer);
hence, when that sum stays below half a cell, it IS the re-derived displacement frame -/
theorem frame_step {g p : Frame} (hg : 3 ∣ g.length) (hp : 3 ∣ p.length) (dg dp : V3)
    (h : ∀ v ∈ shiftFrame ((vsub g p).map minImg1) (dg - dp), |v| < 1 / 2) :
    (vsub ((shiftFrame g dg).map wrap) ((shiftFrame p dp).map wrap)).map minImg1
      = shiftFrame ((vsub g p).map minImg1) (dg - dp) := by
  obtain ⟨A, rfl⟩ := exists_flat g hg
  obtain ⟨B, rfl⟩ := exists_flat p hp
  refine G.C01.Cong.map_minImg1 ?_ h
  simp only [vsub, shiftFrame_eq, zipWith_flat, map_flat, toV3s_flat]
  apply cong_flat
  clear h hg hp
  induction A generalizing B with
  | nil => exact .nil
  | cons a A ih =>
    cases B with
    | nil => exact .nil
    | cons b B =>
      refine .cons (fun π h => ?_) (ih B)
      obtain ⟨k1, h1⟩ := wrap_congr (π a + π dg)
      obtain ⟨k2, h2⟩ := wrap_congr (π b + π dp)
      obtain ⟨k3, h3⟩ := minImg1_congr (π a - π b)
      refine ⟨k1 - k2 - k3, ?_⟩
      simp only [h.v3zip, h.map, h.add, h.sub, h1, h2, h3]
      push_cast
      ring

theorem corrected_frame_shift (m : List Bool) (f : Frame) (d : V3) (hs : sel m (toV3s f) ≠ []) :
    subDrift (shiftFrame f d) (meanAll (maskFrame m (shiftFrame f d)))
      = subDrift f (meanAll (maskFrame m f)) := by
  rw [shiftFrame_eq, subDrift_eq, subDrift_eq, maskFrame_eq, maskFrame_eq, meanAll_eq, meanAll_eq]
  simp only [toV3s_flat]
  rw [sel_map, meanV_shift hs, List.map_map]
  exact congrArg flat (List.map_congr_left fun v _ => V3.ext_coord fun π h => by
    simp only [Function.comp, h.sub, h.add]
    ring)

/-- frame by frame, `frame_step` identifies the re-derived step as the raw one plus the increment of the
translation, and `corrected_frame_shift` removes the increment -/
theorem diffs_rigid {n : Nat} (h3 : 3 ∣ n) {m : List Bool} (hsel : NonEmptySel m n) (rest : List Frame) (ds : List V3)
    (p : Frame) (dp : V3) (hp : p.length = n) (hr : Rect rest n) (hl : ds.length = rest.length)
    (h : ∀ q ∈ List.zip (diffs p rest) (increments dp ds), ∀ v ∈ shiftFrame q.1 q.2, |v| < 1 / 2) :
    (diffs ((shiftFrame p dp).map wrap) ((addDelta rest ds).map (·.map wrap))).map
        (fun f => subDrift f (meanAll (maskFrame m f)))
      = (diffs p rest).map (fun f => subDrift f (meanAll (maskFrame m f))) := by
  induction rest generalizing ds p dp with
  | nil => rfl
  | cons g rest ih =>
    cases ds with
    | nil => nomatch hl
    | cons d ds =>
      obtain ⟨hg, hr⟩ := rect_cons.mp hr
      obtain ⟨h0, h⟩ := List.forall_mem_cons.mp h
      simp only [addDelta_cons, List.map_cons, diffs]
      rw [frame_step (hg ▸ h3) (hp ▸ h3) d dp h0, corrected_frame_shift m _ _ (hsel.ne_nil h3 (by simp [hg, hp])),
        ih ds g d hg hr (Nat.succ.inj hl) h]

/-- the corrected translated trajectory in closed form: the translation has dropped out -/
theorem corrected_addDelta {n : Nat} {mask : List Bool} {c : List Frame} {delta : List V3}
    (hr : Rect c n) (h3 : 3 ∣ n) (hlen : delta.length = c.length) (h0 : delta.head? = some V3.zero)
    (hsel : NonEmptySel mask n) (hsmall : SmallRaw c delta) :
    (applyDrift (some mask) (fresh (addDelta c delta))).2
      = ⟨true, (toDispCoords c).map (fun f => subDrift f (meanAll (maskFrame mask f))), c.headD []⟩ := by
  obtain _ | ⟨d0, ds⟩ := delta
  · nomatch h0
  obtain _ | ⟨f0, rest⟩ := c
  · nomatch hlen
  obtain rfl : V3.zero = d0 := Option.some.inj h0.symm
  obtain ⟨hf0, hrest⟩ := rect_cons.mp hr
  have hw : G.C15.WF n (fresh (addDelta (f0 :: rest) (V3.zero :: ds))) :=
    G.C15.fresh_wf _ n (rect_addDelta h3 hr _) (List.cons_ne_nil _ _)
  rw [applyDrift_some_eq n mask _ hw h3, G.C15.absPos_fresh]
  simp only [addDelta_cons, List.map_cons, toDispCoords, fresh, List.headD_cons]
  rw [diffs_rigid h3 hsel rest ds f0 V3.zero hf0 hrest (Nat.succ.inj hlen) fun q hq =>
    hsmall q (List.mem_cons_of_mem _ hq), shiftFrame_zero f0 (hf0 ▸ h3),
    zerosLike_eq, zerosLike_eq, List.length_map]

/-- **C13 (rigid drift invariance)**: the statement at the head of the file; `hsmall0` is `SmallRaw` for no translation
at all, i.e. the minimum-image steps of the source themselves stay below half a cell. -/
theorem rigid_drift_invariant (n : Nat) (mask : List Bool) (c : List Frame) (delta : List V3)
    (hr : Rect c n) (h3 : 3 ∣ n) (hne : c ≠ []) (hlen : delta.length = c.length) (h0 : delta.head? = some V3.zero)
    (hsel : NonEmptySel mask n) (hsmall : SmallRaw c delta)
    (hsmall0 : SmallRaw c (List.replicate c.length V3.zero)) :
    (applyDrift (some mask) (fresh (addDelta c delta))).2.coords = (applyDrift (some mask) (fresh c)).2.coords ∧
    (applyDrift (some mask) (fresh (addDelta c delta))).2.base = (applyDrift (some mask) (fresh c)).2.base := by
  have h := corrected_addDelta hr h3 (List.length_replicate ..) (by cases c; exacts [absurd rfl hne, rfl]) hsel hsmall0
  rw [addDelta_zero h3 hr] at h
  rw [corrected_addDelta hr h3 hlen h0 hsel hsmall, h]
  exact ⟨rfl, rfl⟩

/-- two reference atoms and one floating atom, a translation of 1/16 along x in frame 1 -/
example :
    let c : List Frame := [[1/8, 0, 0, 1/2, 0, 0, 7/8, 0, 0], [1/4, 0, 0, 1/2, 0, 0, 1/8, 0, 0]]
    let d : List V3 := [V3.zero, ⟨1/16, 0, 0⟩]
    (applyDrift (some [true, true, false]) (fresh (addDelta c d))).2.coords
      = (applyDrift (some [true, true, false]) (fresh c)).2.coords := by
  decide +kernel

end G.C13
