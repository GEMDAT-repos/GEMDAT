import GModel.Orient
import GProofs.Geometry
import GProofs.C17
import GProofs.Lists
import Mathlib.Tactic.Linarith
import Mathlib.Tactic.Ring
/-!
# C18 — orientation vectors are minimum-image bonds; transforms / autocorrelation exact

The per-axis ±1 wrap of the difference of two positions in [0, 1) has every component in [−½, ½] and is
congruent to `sat − cent` (`direction_spec`); `C17.reduced_eq_short_image` then makes it THE short periodic
image (`direction_is_short_image`), so the length of the direction vector is the periodic centre–satellite distance.
-/
namespace G.C18
open G G.Orient G.Geometry

theorem wrapHalf_congr (d : ℚ) : ∃ k : ℤ, wrapHalf d = d + k := by
  unfold wrapHalf
  split_ifs
  · exact ⟨-1, by push_cast; ring⟩
  · exact ⟨1, by push_cast; ring⟩
  · exact ⟨0, by simp⟩

theorem wrapHalf_range (d : ℚ) (h0 : -1 < d) (h1 : d < 1) : |wrapHalf d| ≤ 1 / 2 := by
  unfold wrapHalf
  rw [abs_le]
  split_ifs with ha hb <;> constructor <;> linarith

theorem wrapHalf_sub_range {a b : ℚ} (ha0 : 0 ≤ a) (ha1 : a < 1) (hb0 : 0 ≤ b) (hb1 : b < 1) :
    |wrapHalf (b - a)| ≤ 1 / 2 := wrapHalf_range _ (by linarith) (by linarith)

def InUnit (p : V3) : Prop := 0 ≤ p.x ∧ p.x < 1 ∧ 0 ≤ p.y ∧ p.y < 1 ∧ 0 ≤ p.z ∧ p.z < 1

/-- **C18 (direction)**: every component in [−½, ½], congruent to `sat − cent` modulo whole cells. -/
theorem direction_spec (cent sat : V3) (hc : InUnit cent) (hs : InUnit sat) :
    (|(direction cent sat).x| ≤ 1 / 2 ∧ |(direction cent sat).y| ≤ 1 / 2 ∧ |(direction cent sat).z| ≤ 1 / 2) ∧
    ∃ n1 n2 n3 : ℤ, direction cent sat = shiftBy (sat - cent) n1 n2 n3 := by
  obtain ⟨hc1, hc2, hc3, hc4, hc5, hc6⟩ := hc
  obtain ⟨hs1, hs2, hs3, hs4, hs5, hs6⟩ := hs
  refine ⟨⟨wrapHalf_sub_range hc1 hc2 hs1 hs2, wrapHalf_sub_range hc3 hc4 hs3 hs4,
    wrapHalf_sub_range hc5 hc6 hs5 hs6⟩, ?_⟩
  obtain ⟨k1, h1⟩ := wrapHalf_congr (sat - cent).x
  obtain ⟨k2, h2⟩ := wrapHalf_congr (sat - cent).y
  obtain ⟨k3, h3⟩ := wrapHalf_congr (sat - cent).z
  exact ⟨k1, k2, k3, by simp only [direction, V3.map, shiftBy, h1, h2, h3]⟩

/-- **C18 (minimum image)**: if some periodic image of `sat − cent` is shorter than `r` and `r` is
below half of every perpendicular width (`4 r² adj_ii ≤ det G`), the direction vector is that image. -/
theorem direction_is_short_image (G : Sym3) (hpd : PosDef G) (cent sat : V3) (hc : InUnit cent) (hs : InUnit sat)
    (rsq : ℚ) (n1 n2 n3 : ℤ) (hq : G.Q (shiftBy (sat - cent) n1 n2 n3) < rsq)
    (h1 : 4 * rsq * G.adj1 ≤ G.det) (h2 : 4 * rsq * G.adj2 ≤ G.det) (h3 : 4 * rsq * G.adj3 ≤ G.det) :
    direction cent sat = shiftBy (sat - cent) n1 n2 n3 := by
  obtain ⟨hr, m1, m2, m3, hm⟩ := direction_spec cent sat hc hs
  exact C17.reduced_eq_short_image G hpd _ _ rsq m1 m2 m3 n1 n2 n3 hm hr hq h1 h2 h3

theorem symmetrize_length (ops : List Mat) (vs : List V3) :
    (symmetrize ops vs).length = vs.length * ops.length :=
  Lists.length_flatMap_uniform (fun _ _ => List.length_map _)

/-- **C18 (layout)**: entry `b · n_ops + k` is `R_kᵀ v_b`. -/
theorem symmetrize_get (ops : List Mat) (vs : List V3) (b k : Nat) (hb : b < vs.length) (hk : k < ops.length) :
    (symmetrize ops vs)[b * ops.length + k]? = some ((ops.getD k default).transpose.mulVec (vs.getD b V3.zero)) := by
  rw [symmetrize, Lists.getElem?_flatMap_uniform _ _ vs (fun _ _ => List.length_map _) b k hb hk,
    List.getElem?_map, List.getD_eq_getElem?_getD, List.getD_eq_getElem?_getD,
    List.getElem?_eq_getElem hb, List.getElem?_eq_getElem hk]
  rfl

/-- **C18 (images)**: when the operation list is closed under transposition (as a multiset — true for
a group of orthogonal matrices, where `Rᵀ = R⁻¹`), the block of a vector is a permutation of its images
`R v` under the operations, one per operation. -/
theorem symmetrize_images (ops : List Mat) (hT : (ops.map Mat.transpose).Perm ops) (v : V3) :
    (symmetrize ops [v]).Perm (ops.map (fun r => r.mulVec v)) := by
  have h1 : symmetrize ops [v] = (ops.map Mat.transpose).map (fun r => r.mulVec v) := by
    simp only [symmetrize, List.flatMap_cons, List.flatMap_nil, List.append_nil, List.map_map]
    rfl
  rw [h1]
  exact hT.map _

/-- **C18 (transform)**: the matrix is applied to every vector. -/
theorem transform_spec (m : Mat) (vs : List V3) (b : Nat) (hb : b < vs.length) :
    (transform m vs)[b]? = some (m.mulVec (vs.getD b V3.zero)) ∧ (transform m vs).length = vs.length := by
  refine ⟨?_, ?_⟩
  · simp only [transform, List.getElem?_map, List.getD_eq_getElem?_getD, List.getElem?_eq_getElem hb,
      Option.map_some, Option.getD_some]
  · simp only [transform, List.length_map]

/-- **C18 (autocorrelation, lag 0)**: normalised to one. -/
theorem autocorr_lag_zero (x : List V3) (hne : x ≠ []) (h0 : rawCorr x 0 ≠ 0) : (autocorrDef x)[0]? = some 1 := by
  have hpos : 0 < x.length := List.length_pos_of_ne_nil hne
  simp only [autocorrDef, List.getElem?_map, List.getElem?_range hpos, Option.map_some]
  rw [div_self h0]

/-- the zero-lag value is the mean squared length -/
theorem rawCorr_zero_nonneg (x : List V3) : 0 ≤ rawCorr x 0 := by
  apply div_nonneg
  · apply List.sum_nonneg
    intro q hq
    obtain ⟨k, _, rfl⟩ := List.mem_map.mp hq
    exact dot_self_nonneg _
  · exact Nat.cast_nonneg _

theorem rawCorr_replicate (v : V3) (n m : ℕ) (hm : m < n) : rawCorr (List.replicate n v) m = v.dot v := by
  have hget {k : ℕ} (hk : k < n) : (List.replicate n v).getD k V3.zero = v := by
    rw [List.getD_eq_getElem?_getD, List.getElem?_replicate_of_lt hk, Option.getD_some]
  have hne : ((n - m : ℕ) : ℚ) ≠ 0 := Nat.cast_ne_zero.mpr (Nat.sub_ne_zero_of_lt hm)
  simp only [rawCorr, List.length_replicate]
  rw [List.map_congr_left (g := fun _ => v.dot v) ?_, List.map_const', List.sum_replicate, List.length_range,
    nsmul_eq_mul, mul_div_cancel_left₀ _ hne]
  intro k hk
  rw [List.mem_range] at hk
  rw [hget (show k < n by omega), hget (show k + m < n by omega)]

/-- **C18 (constant vector)**: a vector that never changes has autocorrelation 1 at every lag. -/
theorem autocorr_const (v : V3) (hv : v.dot v ≠ 0) (n : Nat) (m : Nat) (hm : m < n) :
    (autocorrDef (List.replicate n v))[m]? = some 1 := by
  simp only [autocorrDef, List.length_replicate, List.getElem?_map, List.getElem?_range hm, Option.map_some,
    rawCorr_replicate v n 0 (Nat.zero_lt_of_lt hm), rawCorr_replicate v n m hm, div_self hv]

/-- a bond across the cell face; the operations E, C4z, C4z⁻¹: a set closed under transposition -/
example :
    direction ⟨63/64, 1/2, 1/2⟩ ⟨1/64, 1/2, 9/16⟩ = ⟨1/32, 0, 1/16⟩ ∧
    symmetrize [⟨⟨1,0,0⟩,⟨0,1,0⟩,⟨0,0,1⟩⟩, ⟨⟨0,-1,0⟩,⟨1,0,0⟩,⟨0,0,1⟩⟩, ⟨⟨0,1,0⟩,⟨-1,0,0⟩,⟨0,0,1⟩⟩] [⟨1, 2, 3⟩]
      = [⟨1, 2, 3⟩, ⟨2, -1, 3⟩, ⟨-2, 1, 3⟩] ∧
    autocorrDef [⟨1, 0, 0⟩, ⟨0, 1, 0⟩, ⟨-1, 0, 0⟩] = [1, 0, -1] := by
  decide +kernel

end G.C18
