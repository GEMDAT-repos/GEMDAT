import GModel.Traj
import GProofs.Scalar
/-!
# Frames (flat coordinate lists) and lists of frames

`Cong a b`, coordinatewise congruence modulo whole cells, is a `List.Forall₂`, so that equal lengths, induction
over both frames at once and the `map` / `imp` rules come from the library; `cong_of_getD` and `Cong.getD` are
the one bridge to the index form in which the fixed predicates `ShiftOf` and `G.C15.Cong` are written.
-/
namespace G.C01
open G G.Traj List

def Rect (c : List Frame) (n : Nat) : Prop := ∀ f ∈ c, f.length = n

theorem rect_cons {f : Frame} {c : List Frame} {n : Nat} : Rect (f :: c) n ↔ f.length = n ∧ Rect c n :=
  List.forall_mem_cons

theorem Rect.map {c : List Frame} {n : Nat} (h : Rect c n) {φ : Frame → Frame}
    (hφ : ∀ f, f.length = n → (φ f).length = n) : Rect (c.map φ) n :=
  List.forall_mem_map.mpr fun f hf => hφ f (h f hf)

@[simp] theorem length_vadd (a b : Frame) : (vadd a b).length = min a.length b.length := length_zipWith

@[simp] theorem length_vsub (a b : Frame) : (vsub a b).length = min a.length b.length := length_zipWith

theorem zerosLike_eq (f : Frame) : zerosLike f = replicate f.length 0 := map_const' ..

theorem length_zerosLike (f : Frame) : (zerosLike f).length = f.length := length_map ..

theorem eq_replicate_zero {z : Frame} (h : ∀ v ∈ z, v = 0) : z = replicate z.length 0 :=
  eq_replicate_iff.mpr ⟨rfl, h⟩

theorem vadd_zero (a : Frame) {n : Nat} (h : a.length ≤ n) : vadd a (replicate n 0) = a :=
  ext_getElem (by simpa using h) fun j _ _ => by simp [vadd]

theorem zero_vadd (a : Frame) {n : Nat} (h : a.length ≤ n) : vadd (replicate n 0) a = a :=
  (zipWith_comm_of_comm add_comm).trans (vadd_zero a h)

theorem vadd_assoc (a b c : Frame) : vadd (vadd a b) c = vadd a (vadd b c) := by
  simp only [vadd]
  induction a generalizing b c with
  | nil => simp
  | cons x a ih => cases b <;> cases c <;> simp [ih, add_assoc]

theorem map_vadd_cumsumFrom (base : Frame) (ds : List Frame) (acc : Frame) :
    (cumsumFrom acc ds).map (vadd base) = cumsumFrom (vadd base acc) ds := by
  induction ds generalizing acc with
  | nil => rfl
  | cons d ds ih => simp only [cumsumFrom, map_cons, ih, vadd_assoc]

theorem length_diffs (rest : List Frame) (p : Frame) : (diffs p rest).length = rest.length := by
  induction rest generalizing p with
  | nil => rfl
  | cons g rest ih => rw [diffs, length_cons, length_cons, ih]

theorem rect_diffs {n : Nat} {fs : List Frame} {p : Frame} (hp : p.length = n) (hr : Rect fs n) :
    Rect (diffs p fs) n := by
  induction fs generalizing p with
  | nil => exact fun _ h => nomatch h
  | cons g fs ih =>
    obtain ⟨hg, hr⟩ := rect_cons.mp hr
    exact rect_cons.mpr ⟨by simp [hg, hp], ih hg hr⟩

theorem rect_cumsumFrom {n : Nat} {fs : List Frame} {acc : Frame} (ha : acc.length = n) (hr : Rect fs n) :
    Rect (cumsumFrom acc fs) n := by
  induction fs generalizing acc with
  | nil => exact fun _ h => nomatch h
  | cons g fs ih =>
    obtain ⟨hg, hr⟩ := rect_cons.mp hr
    have h : (vadd acc g).length = n := by simp [ha, hg]
    exact rect_cons.mpr ⟨h, ih h hr⟩

def Cong (a b : Frame) : Prop := Forall₂ (fun x y : ℚ => ∃ k : ℤ, x = y + k) a b

theorem Cong.refl (a : Frame) : Cong a a := forall₂_same.mpr fun _ _ => ⟨0, by simp⟩

theorem cong_of_getD : ∀ {a b : Frame}, a.length = b.length →
    (∀ j, ∃ k : ℤ, a.getD j 0 = b.getD j 0 + k) → Cong a b
  | [], [], _, _ => .nil
  | _ :: _, _ :: _, hl, h => .cons (h 0) (cong_of_getD (Nat.succ.inj hl) fun j => h (j + 1))

theorem Cong.getD {a b : Frame} (h : Cong a b) : ∀ j, ∃ k : ℤ, a.getD j 0 = b.getD j 0 + k := by
  induction h with
  | nil => exact fun _ => ⟨0, by simp⟩
  | cons hk _ ih => exact fun j => by cases j; exacts [hk, ih _]

theorem Cong.map_wrap {a b : Frame} (h : Cong a b) : a.map wrap = b.map wrap := by
  induction h with
  | nil => rfl
  | cons hk _ ih =>
    obtain ⟨k, rfl⟩ := hk
    rw [map_cons, map_cons, wrap_add_int, ih]

theorem Cong.map_wrap_right {a b : Frame} (h : Cong a b) : Cong a (b.map wrap) := by
  refine forall₂_map_right_iff.mpr (h.imp fun _ y ⟨k, hk⟩ => ?_)
  obtain ⟨m, hm⟩ := wrap_congr y
  exact ⟨k - m, by rw [hm, hk]; push_cast; ring⟩

theorem Cong.map_minImg1 {y x : Frame} (h : Cong y x) (hx : ∀ v ∈ x, |v| < 1 / 2) : y.map minImg1 = x := by
  induction h with
  | nil => rfl
  | cons hk _ ih =>
    obtain ⟨k, hk⟩ := hk
    obtain ⟨h0, hx⟩ := forall_mem_cons.mp hx
    rw [map_cons, minImg1_eq_of_congr hk h0, ih hx]

theorem Cong.step {A p g : Frame} (h : Cong A p) (hg : g.length = p.length) :
    Cong (vadd A ((vsub g p).map minImg1)) g := by
  induction h generalizing g with
  | nil =>
    obtain rfl := List.eq_nil_of_length_eq_zero hg
    exact .nil
  | cons hk _ ih =>
    cases g with
    | nil => simp at hg
    | cons x g =>
      obtain ⟨k, rfl⟩ := hk
      obtain ⟨m, hm⟩ := minImg1_congr (x - _)
      refine .cons ⟨k + m, ?_⟩ (ih (Nat.succ.inj hg))
      rw [hm]; push_cast; ring

theorem map_minImg1_vsub_shift {g g' p p' : Frame} (hg : Cong g' g) (hp : Cong p' p)
    (hn : ∀ j, NoTie (g.getD j 0 - p.getD j 0)) :
    (vsub g' p').map minImg1 = (vsub g p).map minImg1 := by
  induction hg generalizing p p' with
  | nil => simp [vsub]
  | @cons x' x _ _ hx _ ih =>
    cases hp with
    | nil => simp [vsub]
    | @cons y' y _ _ hy hp =>
      obtain ⟨k1, rfl⟩ := hx
      obtain ⟨k2, rfl⟩ := hy
      have e := ih hp fun j => hn (j + 1)
      have e0 : x + k1 - (y + k2) = (x - y) + ((k1 - k2 : ℤ) : ℚ) := by push_cast; ring
      simp only [vsub, zipWith_cons_cons, map_cons] at e ⊢
      rw [e, e0, minImg1_add_int (x - y) _ (hn 0)]

end G.C01
