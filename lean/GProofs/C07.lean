import GModel.Basic
import GModel.Counts
import GModel.Sites
import GProofs.Geometry
import GProofs.C02
import Mathlib.Tactic.Ring
import Mathlib.Data.Rat.Floor
import Mathlib.Tactic.LinearCombination
/-!
# C07 — results depend only on geometry: orientation, origin, labelling invariance

Every analysis of the model takes the cell only through its METRIC TENSOR `G = M·Mᵀ` (site
assignment, events, jumps, matrices, diffusivities, collective pairs, RDFs) or through fractional
coordinates alone (density volumes, free energy, path graphs).  So a rigid rotation `M ↦ M·R` changes
nothing once it leaves `G` unchanged; a common translation leaves differences, hence periodic distances
and site spheres, unchanged, and rolls voxel indices.
-/
namespace G.C07
open G G.Geometry

/-- 3×3 matrix by columns, acting on the right of row vectors: `(M·R)` has rows `r_i·R` -/
structure Rot where
  c1 : V3
  c2 : V3
  c3 : V3

def rotRow (R : Rot) (v : V3) : V3 := ⟨v.dot R.c1, v.dot R.c2, v.dot R.c3⟩
def M3.mulRot (m : M3) (R : Rot) : M3 := ⟨rotRow R m.r1, rotRow R m.r2, rotRow R m.r3⟩

def Orthogonal (R : Rot) : Prop := ∀ u v : V3, (rotRow R u).dot (rotRow R v) = u.dot v

/-- **C07 (orientation)**: a rigid rotation of the lattice vectors leaves the metric tensor unchanged. -/
theorem metric_rot (m : M3) (R : Rot) (hR : Orthogonal R) : (M3.mulRot m R).metric = m.metric := by
  simp only [M3.metric, M3.mulRot, hR _ _]

/-- `R·Rᵀ = 1` entry by entry (the rows of `R` are orthonormal) suffices -/
theorem orthogonal_of_rows (R : Rot)
    (h11 : R.c1.x^2 + R.c2.x^2 + R.c3.x^2 = 1) (h22 : R.c1.y^2 + R.c2.y^2 + R.c3.y^2 = 1) (h33 : R.c1.z^2 + R.c2.z^2 + R.c3.z^2 = 1)
    (h12 : R.c1.x*R.c1.y + R.c2.x*R.c2.y + R.c3.x*R.c3.y = 0) (h13 : R.c1.x*R.c1.z + R.c2.x*R.c2.z + R.c3.x*R.c3.z = 0)
    (h23 : R.c1.y*R.c1.z + R.c2.y*R.c2.z + R.c3.y*R.c3.z = 0) : Orthogonal R := by
  intro u v
  simp only [rotRow, V3.dot]
  linear_combination (u.x * v.x) * h11 + (u.y * v.y) * h22 + (u.z * v.z) * h33
    + (u.x * v.y + u.y * v.x) * h12 + (u.x * v.z + u.z * v.x) * h13 + (u.y * v.z + u.z * v.y) * h23

theorem v3_add_def (a b : V3) : a + b = ⟨a.x + b.x, a.y + b.y, a.z + b.z⟩ := V3.add_def a b
theorem v3_sub_def (a b : V3) : a - b = ⟨a.x - b.x, a.y - b.y, a.z - b.z⟩ := V3.sub_def a b

theorem diff_translate (a b t : V3) : (b + t) - (a + t) = b - a := by
  simp only [v3_sub_def, v3_add_def, V3.mk.injEq]
  refine ⟨?_, ?_, ?_⟩ <;> ring

/-- **C07 (origin)**: a common translation does not change the periodic distance … -/
theorem pbcDistSq_translate (G : Sym3) (a b t : V3) : pbcDistSq G (a + t) (b + t) = pbcDistSq G a b := by
  unfold pbcDistSq
  rw [diff_translate]

/-- … nor membership in a site sphere: site assignment is invariant when atoms and sites move together. -/
theorem within_translate (G : Sym3) (r : ℚ) (s x t : V3) :
    Sites.within G r (s + t) (x + t) = Sites.within G r s x := by
  unfold Sites.within
  rw [pbcDistSq_translate]

/-- re-wrapping a site after the translation (sites are stored in [0,1)) changes nothing either,
away from ties -/
theorem pbcDistSq_wrap_site (G : Sym3) (a b : V3) (n1 n2 n3 : ℤ)
    (hn : ∀ k : ℤ, (b - a).x ≠ k + 1/2 ∧ (b - a).y ≠ k + 1/2 ∧ (b - a).z ≠ k + 1/2) :
    minImageSqCert G (b - shiftBy a n1 n2 n3) = minImageSqCert G (b - a) := by
  rw [sub_shiftBy]
  exact minImageSqCert_shift G (b - a) (-n1) (-n2) (-n3) hn

theorem floor_wrap_mul (n : Nat) (hn : 0 < n) (y : ℚ) : ⌊wrap y * n⌋ = ⌊y * n⌋ % (n : ℤ) := by
  obtain ⟨h0, h1⟩ := C01.wrap_range y
  have h : ⌊wrap y * n⌋ = ⌊y * n⌋ - ⌊y⌋ * (n : ℤ) := by
    rw [C01.wrap_eq, sub_mul, ← Int.cast_natCast n, ← Int.cast_mul, Int.floor_sub_intCast]
  obtain ⟨hlo, hhi⟩ := Scalar.floor_mul_mem hn h0 h1
  rw [← Int.emod_eq_of_lt hlo hhi, h, Int.sub_mul_emod_self_right]

/-- **C07 (grids)**: translating a coordinate by `k` voxels rolls its voxel index by `k` modulo the grid size. -/
theorem voxel_translate (n : Nat) (hn : 0 < n) (x : ℚ) (k : ℤ) :
    ⌊wrap (x + (k : ℚ) / n) * n⌋ = (⌊wrap x * n⌋ + k) % (n : ℤ) := by
  rw [floor_wrap_mul n hn, floor_wrap_mul n hn, Int.emod_add_emod, add_mul,
    div_mul_cancel₀ _ (Nat.cast_ne_zero.mpr hn.ne'), Int.floor_add_intCast]

/-- **C07 (site labelling)**: relabelling the sites by an injective map moves the counts with them. -/
theorem countPair_relabel (rows : List Counts.Pair) (f : Int → Int) (hf : Function.Injective f) (i j : Int) :
    Counts.countPair (rows.map (fun p => (f p.1, f p.2))) (f i, f j) = Counts.countPair rows (i, j) := by
  unfold Counts.countPair
  rw [List.filter_map, List.length_map]
  congr 1
  apply List.filter_congr
  intro p _
  simp only [Function.comp, Prod.mk.injEq, hf.eq_iff, decide_eq_decide]
  exact (Prod.ext_iff (x := p) (y := (i, j))).symm

/-- **C07 (site order)**: the assigned index is the position of the one site that contains the atom, wherever in
the list that site stands (`C07Pipe.assign_reorder` applies this to a reordered list). -/
theorem assign_perm_sites (G : Sym3) (frac : ℚ) (sites : List (V3 × ℚ)) (x : V3) (k : Nat) (p : V3 × ℚ)
    (hk : sites[k]? = some p) (hin : Sites.within G (p.2 * frac) p.1 x = true)
    (huniq : ∀ j q, sites[j]? = some q → Sites.within G (q.2 * frac) q.1 x = true → j = k) :
    Sites.assign G frac sites x = k := by
  obtain ⟨hk', he⟩ := List.getElem?_eq_some_iff.mp hk
  refine (C02.assign_eq_natCast_iff G frac sites x k).mpr ⟨hk', he ▸ hin, fun j hj hc => ?_⟩
  exact absurd (huniq j sites[j] (List.getElem?_eq_getElem _) hc) (by omega)

/-- a (3,4,5) rotation about z of a triclinic cell -/
example :
    let R : Rot := ⟨⟨3/5, 4/5, 0⟩, ⟨-4/5, 3/5, 0⟩, ⟨0, 0, 1⟩⟩
    let M : M3 := ⟨⟨7, 0, 0⟩, ⟨3/2, 8, 0⟩, ⟨2, 1, 9⟩⟩
    (M3.mulRot M R).metric = M.metric ∧ (M3.mulRot M R).r1 = ⟨21/5, -28/5, 0⟩ := by
  decide +kernel

end G.C07
