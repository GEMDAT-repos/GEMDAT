import GModel.CacheName
import GGen.CacheKeys
import GGen.CacheNames
import GProofs.C16
/-!
# C16 (names) — the default cache file name separates what it must separate

`Path.with_suffix` keeps everything of the carrier file name BUT its last component (`with_suffix_forgets_last`: it
cannot tell `md.xml` from `md.bak`), so with a hash over the options only two vasprun files with one stem share their
cache name (`asWas_collision`, D17).  The name ends in `[hash, "cache"]`, so it determines the hash
(`name_determines_hash`) and, between templates of one length, the template components written into it literally
(`name_determines_template`; LAMMPS `coords_format`).  The obligations at the end say, per loader, that every
parameter the parser reads is hashed or written into the template.
-/
namespace G.C16Names
open G G.CacheName

theorem with_suffix_forgets_last (stem : List String) (a b : String) (suffix : List String) (h : stem ≠ []) :
    withSuffix (stem ++ [a]) suffix = withSuffix (stem ++ [b]) suffix := by
  unfold withSuffix
  have hl : ∀ x : String, ¬ (stem ++ [x]).length ≤ 1 := by
    have : 0 < stem.length := List.length_pos_iff.mpr h
    simp only [List.length_append, List.length_singleton]
    omega
  simp only [hl, if_false, List.dropLast_concat]

/-- **D17 as it was**: hash over the options only (`h` the same for both files) -/
theorem asWas_collision (h : String) :
    cacheName ["md", "xml"] ["xml"] h = cacheName ["md", "bak"] ["xml"] h := by
  exact with_suffix_forgets_last ["md"] "xml" "bak" _ (by simp)

theorem name_determines_hash (f f' t t' : List String) (h h' : String)
    (e : cacheName f t h = cacheName f' t' h') : h = h' := by
  unfold cacheName withSuffix at e
  have e' := congrArg List.reverse e
  simp only [List.reverse_append, List.reverse_cons, List.reverse_nil, List.nil_append, List.cons_append] at e'
  exact (List.cons.inj (List.cons.inj e').2).1

theorem name_determines_template (f f' t t' : List String) (h h' : String) (hl : t.length = t'.length)
    (e : cacheName f t h = cacheName f' t' h') : t = t' := by
  unfold cacheName withSuffix at e
  have e1 : (if f.length ≤ 1 then f else f.dropLast) ++ t ++ [h, "cache"]
      = (if f'.length ≤ 1 then f' else f'.dropLast) ++ t' ++ [h', "cache"] := by
    simpa [List.append_assoc] using e
  have e2 := List.append_inj_left' e1 rfl
  exact List.append_inj_right' e2 hl

/-- **C16 (names, repaired form)**: the hash covers the file name (`key = (file, options)`), `hashOf` injective on the keys in use:
different files or different hashed options never share a default cache name. -/
theorem distinct_of_hashed {K : Type} (hashOf : K → String) (hinj : Function.Injective hashOf)
    (f f' t t' : List String) (k k' : K) (hk : k ≠ k') :
    cacheName f t (hashOf k) ≠ cacheName f' t' (hashOf k') := by
  intro e
  exact hk (hinj (name_determines_hash f f' t t' _ _ e))

example : cacheName ["md", "xml"] ["xml"] "037fbfaf" ≠ cacheName ["md", "bak"] ["xml"] "9a1c22d0" := by decide

theorem from_vasprun_used_hashed :
    ∀ p ∈ G.Gen.from_vasprun_used, p ∈ G.Gen.from_vasprun_hashed ∨ p ∈ G.Gen.from_vasprun_templated ∨ p ∈ C16.neutral := by
  simp only [G.Gen.from_vasprun_used, List.forall_mem_cons, List.not_mem_nil, false_imp_iff, implies_true, and_true]
  simp only [G.Gen.from_vasprun_hashed, G.Gen.from_vasprun_templated, List.mem_cons, true_or, or_true, and_self]

theorem from_lammps_used_hashed :
    ∀ p ∈ G.Gen.from_lammps_used, p ∈ G.Gen.from_lammps_hashed ∨ p ∈ G.Gen.from_lammps_templated ∨ p ∈ C16.neutral := by
  simp only [G.Gen.from_lammps_used, List.forall_mem_cons, List.not_mem_nil, false_imp_iff, implies_true, and_true]
  simp only [G.Gen.from_lammps_hashed, G.Gen.from_lammps_templated, List.mem_cons, true_or, or_true, and_self]

theorem from_gromacs_used_hashed :
    ∀ p ∈ G.Gen.from_gromacs_used, p ∈ G.Gen.from_gromacs_hashed ∨ p ∈ G.Gen.from_gromacs_templated ∨ p ∈ C16.neutral := by
  simp only [G.Gen.from_gromacs_used, List.forall_mem_cons, List.not_mem_nil, false_imp_iff, implies_true, and_true]
  simp only [G.Gen.from_gromacs_hashed, G.Gen.from_gromacs_templated, List.mem_cons, true_or, or_true, and_self]

/-- the file whose name carries the template loses its last suffix in the name (`with_suffix_forgets_last`): it must be hashed -/
theorem carriers_hashed :
    G.Gen.from_vasprun_carrier ∈ G.Gen.from_vasprun_hashed ∧ G.Gen.from_lammps_carrier ∈ G.Gen.from_lammps_hashed ∧
      G.Gen.from_gromacs_carrier ∈ G.Gen.from_gromacs_hashed := by
  simp only [G.Gen.from_vasprun_carrier, G.Gen.from_vasprun_hashed, G.Gen.from_lammps_carrier, G.Gen.from_lammps_hashed,
    G.Gen.from_gromacs_carrier, G.Gen.from_gromacs_hashed, List.mem_cons, true_or, or_true, and_self]

end G.C16Names
