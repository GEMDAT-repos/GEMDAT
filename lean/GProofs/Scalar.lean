import GModel.Basic
import Mathlib.Data.Rat.Floor
import Mathlib.Tactic.Linarith
import Mathlib.Tactic.Ring
/-!
# Coordinates modulo whole cells: `wrap`, `rne`, `minImg1`

`wrap x` is the representative of `x + ℤ` in [0, 1), `minImg1 d = d − rne d` the one in [−½, ½].  Both move by an
integer, both land in their window, and a class has at most one representative strictly inside (−½, ½)
(`int_eq_of_abs_add`): every statement about "the same point modulo 1" rests on these three facts.
-/
namespace G.C01

theorem wrap_eq (x : ℚ) : wrap x = x - (⌊x⌋ : ℚ) := rfl

theorem wrap_eq_fract (x : ℚ) : wrap x = Int.fract x := rfl

theorem wrap_range (x : ℚ) : 0 ≤ wrap x ∧ wrap x < 1 := ⟨Int.fract_nonneg x, Int.fract_lt_one x⟩

theorem wrap_congr (x : ℚ) : ∃ k : ℤ, wrap x = x + k :=
  ⟨-⌊x⌋, by rw [wrap_eq, Int.cast_neg, sub_eq_add_neg]⟩

theorem wrap_add_int (x : ℚ) (k : ℤ) : wrap (x + k) = wrap x := Int.fract_add_intCast x k

theorem wrap_of_unit {x : ℚ} (h0 : 0 ≤ x) (h1 : x < 1) : wrap x = x := Int.fract_eq_self.mpr ⟨h0, h1⟩

theorem wrap_wrap (x : ℚ) : wrap (wrap x) = wrap x := Int.fract_fract x

theorem rne_cases (x : ℚ) :
    (rne x = ⌊x⌋ ∧ x - (⌊x⌋ : ℚ) ≤ 1 / 2) ∨ (rne x = ⌊x⌋ + 1 ∧ 1 / 2 ≤ x - (⌊x⌋ : ℚ)) := by
  unfold rne
  dsimp only
  split_ifs with h1 h2
  · exact Or.inl ⟨rfl, h1.le⟩
  · exact Or.inr ⟨rfl, h2.le⟩
  -- at a tie both sides are allowed
  · exact Or.inl ⟨rfl, not_lt.mp h2⟩
  · exact Or.inr ⟨rfl, not_lt.mp h1⟩

theorem abs_sub_rne_le_half (x : ℚ) : |x - (rne x : ℚ)| ≤ 1 / 2 := by
  rcases rne_cases x with ⟨h, hr⟩ | ⟨h, hr⟩ <;> rw [h]
  · rwa [abs_of_nonneg (sub_nonneg.mpr (Int.floor_le x))]
  · rw [Int.cast_add, Int.cast_one, abs_sub_comm, abs_of_nonneg (sub_nonneg.mpr (Int.lt_floor_add_one x).le)]
    linarith

theorem abs_minImg1_le_half (d : ℚ) : |minImg1 d| ≤ 1 / 2 := abs_sub_rne_le_half d

theorem minImg1_congr (d : ℚ) : ∃ k : ℤ, minImg1 d = d + k :=
  ⟨-rne d, by unfold minImg1; push_cast; ring⟩

theorem abs_le_of_abs_add_lt {t : ℚ} {n : ℤ} {K : ℕ} (ht : |t| ≤ 1 / 2) (h : |t + n| < K + 1 / 2) :
    |n| ≤ (K : ℤ) := by
  have h1 : |(n : ℚ)| < ((K + 1 : ℤ) : ℚ) := by
    have := abs_sub (t + n) t
    rw [add_sub_cancel_left] at this
    push_cast; linarith
  rw [← Int.cast_abs, Int.cast_lt] at h1
  omega

theorem int_eq_of_abs_add {d : ℚ} {m n : ℤ} (hm : |d + m| ≤ 1 / 2) (hn : |d + n| < 1 / 2) : m = n := by
  have h := abs_le_of_abs_add_lt (K := 0) (n := n - m) hm (by push_cast; rwa [zero_add, add_add_sub_cancel])
  exact (sub_eq_zero.mp (abs_nonpos_iff.mp h)).symm

theorem rne_eq_of_abs_sub_lt {x : ℚ} {n : ℤ} (h : |x - n| < 1 / 2) : rne x = n :=
  neg_inj.mp (int_eq_of_abs_add (d := x)
    (by rw [Int.cast_neg, ← sub_eq_add_neg]; exact abs_sub_rne_le_half x) (by rwa [Int.cast_neg, ← sub_eq_add_neg]))

theorem minImg1_eq_of_congr {y x : ℚ} {k : ℤ} (h : y = x + k) (hx : |x| < 1 / 2) : minImg1 y = x := by
  have hr : rne y = k := rne_eq_of_abs_sub_lt (by rw [h, add_sub_cancel_right]; exact hx)
  rw [minImg1, hr, h, add_sub_cancel_right]

/-- the raw difference is not exactly half a cell away from an integer -/
def NoTie (d : ℚ) : Prop := ∀ k : ℤ, d ≠ (k : ℚ) + 1 / 2

theorem noTie_of_abs_lt {q : ℚ} (h : |q| < 1 / 2) : NoTie q := by
  rintro k rfl
  obtain rfl : (0 : ℤ) = k := int_eq_of_abs_add (d := 1 / 2) (by norm_num) (by rwa [add_comm])
  norm_num at h

theorem NoTie.abs_minImg1_lt {d : ℚ} (h : NoTie d) : |minImg1 d| < 1 / 2 := by
  obtain ⟨hl, hu⟩ := abs_le.mp (abs_minImg1_le_half d)
  refine abs_lt.mpr ⟨lt_of_le_of_ne hl fun e => ?_, lt_of_le_of_ne hu fun e => ?_⟩
  · exact h (rne d - 1) (by rw [minImg1] at e; push_cast; linarith)
  · exact h (rne d) (sub_eq_iff_eq_add'.mp e)

theorem rne_add_int (d : ℚ) (k : ℤ) (h : NoTie d) : rne (d + k) = rne d + k :=
  rne_eq_of_abs_sub_lt (by
    have e : d + (k : ℚ) - ((rne d + k : ℤ) : ℚ) = minImg1 d := by unfold minImg1; push_cast; ring
    rw [e]; exact h.abs_minImg1_lt)

theorem minImg1_add_int (d : ℚ) (k : ℤ) (h : NoTie d) : minImg1 (d + k) = minImg1 d := by
  rw [minImg1, rne_add_int d k h, minImg1]
  push_cast; ring

/-- at a tie the minimum image is not unique and round-half-even picks different signs:
0.25 → 0.75 versus 0.25 → 1.75 (`NoTie` is necessary) -/
theorem tie_counterexample : minImg1 ((3 : ℚ) / 4 - 1 / 4) = 1 / 2 ∧ minImg1 ((7 : ℚ) / 4 - 1 / 4) = -1 / 2 := by
  decide +kernel

end G.C01

/-! `truncZ` on whole numbers; on an `n`-cell grid of [0, 1), `⌊x·n⌋` is a cell index (the voxels of C07, C08) and the
centre `(k + ½)/n` of cell `k` lies inside it (voxel centres of C08, path sites of C10) -/
namespace G.Scalar

theorem truncZ_of_nonneg {y : ℚ} (h : 0 ≤ y) : truncZ y = ⌊y⌋ := if_pos h

theorem truncZ_intCast {n : ℤ} (h : 0 ≤ n) : truncZ (n : ℚ) = n := by
  rw [truncZ_of_nonneg (Int.cast_nonneg h), Int.floor_intCast]

theorem floor_mul_mem {x : ℚ} {n : Nat} (hn : 0 < n) (h0 : 0 ≤ x) (h1 : x < 1) :
    0 ≤ ⌊x * n⌋ ∧ ⌊x * n⌋ < (n : ℤ) :=
  ⟨Int.floor_nonneg.mpr (mul_nonneg h0 n.cast_nonneg),
    Int.floor_lt.mpr (by push_cast; exact mul_lt_of_lt_one_left (Nat.cast_pos.mpr hn) h1)⟩

theorem centre_in_cell (k : ℚ) {n : ℚ} (hn : 0 < n) : k / n < (k + 1 / 2) / n ∧ (k + 1 / 2) / n < (k + 1) / n :=
  ⟨div_lt_div_of_pos_right (lt_add_of_pos_right k one_half_pos) hn,
    div_lt_div_of_pos_right (add_lt_add_right one_half_lt_one k) hn⟩

theorem centre_in_unit {k n : ℚ} (h0 : 0 ≤ k) (h1 : k + 1 ≤ n) : 0 < (k + 1 / 2) / n ∧ (k + 1 / 2) / n < 1 := by
  have hn : 0 < n := lt_of_lt_of_le (add_pos_of_nonneg_of_pos h0 one_pos) h1
  have h := centre_in_cell k hn
  exact ⟨lt_of_le_of_lt (div_nonneg h0 hn.le) h.1, lt_of_lt_of_le h.2 ((div_le_one hn).mpr h1)⟩

end G.Scalar
