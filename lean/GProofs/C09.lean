import Mathlib.Analysis.SpecialFunctions.Log.Basic
import Mathlib.Algebra.BigOperators.Group.Finset.Basic
import Mathlib.Algebra.BigOperators.Field
import Mathlib.Tactic.Positivity
/-!
# C09 — free energy is −kT ln(probability) and stays finite

Specification over ℝ (`Real.log`): `F kT S d = −kT · log (d / S)` for a visited voxel with
density `d > 0` out of a total `S`; an unvisited voxel receives the constant `BIG`.
-/
namespace G.C09

/-- free energy of a visited voxel -/
noncomputable def F (kT S d : ℝ) : ℝ := -kT * Real.log (d / S)

/-- energy assigned to an unvisited voxel: the decimal literal of the largest finite double (slightly below it as an
exact number; `FreeEnergy.big`, the same literal as a `Float`, rounds to the true maximum) -/
def BIG : ℝ := 17976931348623157 * 10 ^ 292

/-- voxel energy as the code produces it -/
noncomputable def energy (kT S d : ℝ) : ℝ := if d = 0 then BIG else F kT S d

/-- node predicate of `free_energy_graph` -/
def IsNode (thr e : ℝ) : Prop := 0 ≤ e ∧ e < thr

theorem exp_neg_F (kT S d : ℝ) (hkT : 0 < kT) (hS : 0 < S) (hd : 0 < d) :
    Real.exp (-(F kT S d) / kT) = d / S := by
  rw [F, neg_mul, neg_neg, mul_div_cancel_left₀ _ hkT.ne', Real.exp_log (div_pos hd hS)]

/-- **C09 (normalisation)**: over any finite family of voxels the recovered probabilities of the visited voxels sum
to one. -/
theorem sum_exp_neg_F {ι : Type} (s : Finset ι) (dens : ι → ℝ) (kT : ℝ) (hkT : 0 < kT)
    (hnn : ∀ i ∈ s, 0 ≤ dens i) (hS : 0 < ∑ i ∈ s, dens i) :
    ∑ i ∈ s.filter (fun i => dens i ≠ 0), Real.exp (-(F kT (∑ j ∈ s, dens j) (dens i)) / kT) = 1 := by
  -- on the filtered set every term is `dens i / S` by `exp_neg_F`; the terms filtered out are zero
  rw [Finset.sum_congr rfl fun i hi => exp_neg_F kT _ (dens i) hkT hS
      ((hnn i (Finset.mem_filter.1 hi).1).lt_of_ne' (Finset.mem_filter.1 hi).2),
    ← Finset.sum_div, Finset.sum_filter_ne_zero, div_self hS.ne']

/-- **C09 (monotone)**: a denser voxel never has a higher free energy. -/
theorem F_antitone (kT S d₁ d₂ : ℝ) (hkT : 0 < kT) (hS : 0 < S) (h1 : 0 < d₁) (h12 : d₁ ≤ d₂) :
    F kT S d₂ ≤ F kT S d₁ :=
  mul_le_mul_of_nonpos_left
    (Real.log_le_log (div_pos h1 hS) (div_le_div_of_nonneg_right h12 hS.le)) (neg_nonpos.2 hkT.le)

theorem F_nonneg (kT S d : ℝ) (hkT : 0 < kT) (hd : 0 < d) (hdS : d ≤ S) : 0 ≤ F kT S d :=
  have hS : 0 < S := lt_of_lt_of_le hd hdS
  mul_nonneg_of_nonpos_of_nonpos (neg_nonpos.2 hkT.le)
    (Real.log_nonpos (div_pos hd hS).le ((div_le_one hS).2 hdS))

/-- **C09 (unvisited voxels)**: finite by construction, and excluded from every free-energy graph
whose threshold does not exceed `BIG` — in particular 1e20 and 1e7. -/
theorem unvisited_excluded (kT S thr : ℝ) (hthr : thr ≤ BIG) : ¬ IsNode thr (energy kT S 0) := by
  rw [energy, if_pos rfl]
  exact fun h => absurd h.2 (not_lt.2 hthr)

theorem thresholds_below_big : (10 : ℝ) ^ 20 ≤ BIG ∧ (10 : ℝ) ^ 7 ≤ BIG := by
  -- `10 ^ n ≤ 10 ^ 292 ≤ 17976931348623157 · 10 ^ 292`
  have key : ∀ n : ℕ, n ≤ 292 → (10 : ℝ) ^ n ≤ BIG := fun n hn =>
    (pow_le_pow_right₀ (by norm_num) hn).trans (le_mul_of_one_le_left (by positivity) (by norm_num))
  exact ⟨key 20 (by norm_num), key 7 (by norm_num)⟩

theorem node_iff (kT S d thr : ℝ) (hkT : 0 < kT) (hd : 0 < d) (hdS : d ≤ S) :
    IsNode thr (energy kT S d) ↔ F kT S d < thr := by
  rw [energy, if_neg hd.ne']
  exact ⟨fun h => h.2, fun h => ⟨F_nonneg kT S d hkT hd hdS, h⟩⟩

example : F 1 4 3 ≤ F 1 4 1 := F_antitone 1 4 1 3 one_pos (by norm_num) one_pos (by norm_num)

end G.C09
