import GGen.FormulasC06
import GModel.Traj
import GProofs.C06
import GProofs.C06Fft
import Mathlib.Tactic.Ring
/-!
# C06 — obligations on the slice regenerated from `Trajectory.mean_squared_displacement` (GGen/FormulasC06.lean); see DESIGN 12.8

The array code of the function is recorded as flags (compared as source text); the combination of the two terms and the
length of the padded transform are translated.
-/
namespace G.C06Gen
open G G.Traj G.Fft

theorem msdCombine_eq (a b : ℚ) : Gen.msdCombine a b = a - 2 * b := by
  unfold Gen.msdCombine; ring

theorem msdCombine_model (r : List V3) (m : Nat) : Gen.msdCombine (s1 r m) (s2 r m) = msdAlgo r m := by
  rw [msdCombine_eq]; rfl

theorem msdCombine_is_definition (r : List V3) (m : Nat) (hm : m < r.length) :
    Gen.msdCombine (s1 r m) (s2 r m) = msdDef r m := by
  rw [msdCombine_model]; exact C06.msdAlgo_eq_def r m hm

/-- the transform length written in the source leaves room for every lag that is kept: no wrapped-around term … -/
theorem msdFftLength_ok (n k : Nat) (hk : k < n) : n + k ≤ Gen.msdFftLength n := by
  unfold Gen.msdFftLength; omega

/-- … hence the code — FFT step read as the cyclic autocorrelation of the signal padded to the SOURCE's length, terms combined as
the source combines them — computes the definition, for every track and every lag -/
theorem msd_source_is_definition (r : List V3) (m : Nat) (hm : m < r.length) :
    Gen.msdCombine (s1 r m) (s2Cyclic r (Gen.msdFftLength r.length) m) = msdDef r m :=
  (msdCombine_eq _ _).trans (C06Fft.msdCode_eq_def_of_pad r _ m hm (msdFftLength_ok _ _ hm))

end G.C06Gen
