import GModel.Jumps
import GProofs.C03
import GProofs.Machine
import Mathlib.Algebra.Order.Group.Multiset
/-!
# C04 — jumps are exactly the changes of visited site; stricter settings only remove

Default mode (inner = outer): the machine is run in lock-step with the visited-site specification `spec` along the site
history.  Monotonicity in `minimal_residence`, for ARBITRARY event lists (inner-site mode included): the runs under the
two residences are related by a simulation that `step` preserves.
-/
namespace G.C04
open G.Events G.Jumps G.C19

/-- default-mode events of one atom (inner = outer) -/
def evs : Nat → List Int → List Event
  | t, a :: b :: rest =>
      (if a ≠ b then [⟨t, a, b, a, b⟩] else []) ++ evs (t + 1) (b :: rest)
  | _, _ => []

theorem evs_eq_eventsSpec : ∀ (s : List Int) (t : Nat), evs t s = eventsSpec t s s
  | [], _ | [_], _ => rfl
  | a :: b :: rest, t => by simp only [evs, eventsSpec, evs_eq_eventsSpec (b :: rest), or_self]

/-- invariant after processing frame `t` whose value is `a` (the candidate is always empty): either the atom is
at a site, or it has been at none so far, or it left `l` at `tl` and has been at none since -/
def JInv (a : Int) (t : Nat) (frm : Option Event) (last : Option (Int × Nat)) : Prop :=
  (a ≠ -1 ∧ frm = none ∧ last = some (a, t)) ∨
  (a = -1 ∧ frm = none ∧ last = none) ∨
  (a = -1 ∧ ∃ l tl, l ≠ -1 ∧ frm = some ⟨tl, l, -1, l, -1⟩ ∧ last = some (l, tl))

theorem run_eq_spec_aux (mr : Int) (rest : List Int) {a : Int} {t : Nat} {frm : Option Event} {out : List Jump}
    {last : Option (Int × Nat)} (hinv : JInv a t frm last) :
    (run mr ⟨frm, none, out⟩ (evs t (a :: rest))).out = out ++ spec last (t + 1) rest := by
  induction rest generalizing a t frm out last with
  | nil => exact (List.append_nil out).symm
  | cons b rest ih =>
    by_cases hab : a = b
    · subst hab
      rw [show evs t (a :: a :: rest) = evs (t + 1) (a :: rest) by simp [evs]]
      rcases hinv with ⟨ha, rfl, rfl⟩ | ⟨rfl, rfl, rfl⟩ | ⟨rfl, l, tl, hl1, rfl, rfl⟩
      · rw [ih (.inl ⟨ha, rfl, rfl⟩)]
        simp [spec, ha]
      · rw [ih (.inr (.inl ⟨rfl, rfl, rfl⟩))]
        simp [spec]
      · rw [ih (.inr (.inr ⟨rfl, l, tl, hl1, rfl, rfl⟩))]
        simp [spec]
    · rw [show evs t (a :: b :: rest) = ⟨t, a, b, a, b⟩ :: evs (t + 1) (b :: rest) by simp [evs, hab], run_cons, step_eq,
        blk1_none]
      show (run mr (blk23b (if a ≠ -1 ∧ a ≠ b then some ⟨t, a, b, a, b⟩ else frm) none out ⟨t, a, b, a, b⟩) _).out = _
      rcases hinv with ⟨ha, rfl, rfl⟩ | ⟨rfl, rfl, rfl⟩ | ⟨rfl, l, tl, hl1, rfl, rfl⟩
      · -- at a site: the event itself becomes the pending leave event
        rw [if_pos ⟨ha, hab⟩]
        by_cases hb : b = -1
        · subst hb
          rw [blk23b_hold (fun h => ha h.symm) (fun h => h rfl) (fun h => h rfl),
            ih (.inr (.inr ⟨rfl, a, t, ha, rfl, rfl⟩))]
          simp [spec]
        · rw [blk23b_emit (fun h => hab h.symm) hb, ih (.inl ⟨hb, rfl, rfl⟩)]
          simp [spec, hb, hab]
      · -- at no site so far: the first site is entered
        have hb : b ≠ -1 := fun h => hab h.symm
        rw [if_neg (fun h => h.1 rfl), blk23b_none, ih (.inl ⟨hb, rfl, rfl⟩)]
        simp [spec, hb]
      · -- away from `l`: back to it, or on to another site
        have hb : b ≠ -1 := fun h => hab h.symm
        rw [if_neg (fun h => h.1 rfl)]
        by_cases hbl : b = l
        · subst hbl
          rw [blk23b_back rfl, ih (.inl ⟨hb, rfl, rfl⟩)]
          simp [spec, hb]
        · rw [blk23b_emit hbl hb, ih (.inl ⟨hb, rfl, rfl⟩)]
          simp [spec, hb, Ne.symm hbl]

/-- **C04, default mode**: machine on the events of a history = visited-site spec,
for every history and every `minimal_residence`. -/
theorem default_eq_spec (mr : Int) (s : List Int) :
    (run mr St.init (evs 0 s)).out = defaultJumps s := by
  unfold defaultJumps
  cases s with
  | nil => rfl
  | cons x xs =>
    by_cases hx : x = -1
    · subst hx
      exact (run_eq_spec_aux mr xs (.inr (.inl ⟨rfl, rfl, rfl⟩))).trans (by simp [spec])
    · exact (run_eq_spec_aux mr xs (.inl ⟨hx, rfl, rfl⟩)).trans (by simp [spec, hx])

theorem spec_endpoints (s : List Int) (last : Option (Int × Nat)) (t : Nat) (j : Jump)
    (hl : ∀ l tl, last = some (l, tl) → l ≠ -1) (h : j ∈ spec last t s) :
    j.o ≠ -1 ∧ j.d ≠ -1 ∧ j.o ≠ j.d := by
  have hl' : ∀ {x : Int} {t : Nat}, ¬ x = -1 → ∀ l tl, some (x, t) = some (l, tl) → l ≠ -1 :=
    fun hx _ _ e => (Prod.mk.inj (Option.some.inj e)).1 ▸ hx
  fun_induction spec last t s with
  | case1 => cases h
  | case2 last t xs ih => exact ih hl h
  | case3 t x xs hx l tl hlx ih =>
    rcases List.mem_cons.mp h with rfl | h
    · exact ⟨hl l tl rfl, hx, hlx⟩
    · exact ih (hl' hx) h
  | case4 t x xs hx l tl hlx ih => exact ih (hl' hx) h
  | case5 t x xs hx ih => exact ih (hl' hx) h

/-- the final `start != destination` filter of `Jumps.data` removes nothing in default mode -/
theorem default_jumps_eq_spec (mr : Int) (s : List Int) :
    jumpsOfEvents mr (evs 0 s) = defaultJumps s := by
  unfold jumpsOfEvents
  rw [default_eq_spec]
  exact List.filter_eq_self.mpr fun j hj => decide_eq_true (spec_endpoints s none 0 j nofun hj).2.2

/-- **C04 (default mode, end to end)**: from the site history through the event table the code
builds (C03) and the state machine to `Jumps.data`: exactly the specification. -/
theorem jumpsOfHistory_default (mr : Int) (s : List Int) :
    jumpsOfHistory mr s s = defaultJumps s := by
  unfold jumpsOfHistory
  rw [G.C03.eventsAlgo_eq_spec s s rfl, ← evs_eq_eventsSpec]
  exact default_jumps_eq_spec mr s

/-- leaving a site and returning to it is not a jump; time at no site is ignored -/
example : defaultJumps [0, 0, -1, 0, -1, 1, 1, -1, 1, 2] = [⟨0, 1, 3, 5⟩, ⟨1, 2, 8, 9⟩] := by decide

/-- simulation relation between the run with the smaller (`a`) and the larger (`b`) residence: same candidate, or `a` has
committed a jump `c` that is still pending in `b` (so `c` counts on `b`'s side as if already emitted) -/
def SimRel (a b : St) : Prop :=
  a.frm = b.frm ∧
  ((a.cand = b.cand ∧ (b.out : Multiset Jump) ≤ a.out) ∨
   (a.cand = none ∧ ∃ c, b.cand = some c ∧ (c ::ₘ (b.out : Multiset Jump)) ≤ a.out))

theorem SimRel.out_le {a b : St} (h : SimRel a b) : (b.out : Multiset Jump) ≤ a.out := by
  rcases h.2 with ⟨_, h⟩ | ⟨_, c, _, h⟩
  · exact h
  · exact le_trans (Multiset.le_cons_self _ c) h

theorem coe_snoc {α : Type} (o : List α) (c : α) : ((o ++ [c] : List α) : Multiset α) = c ::ₘ (o : Multiset α) := by
  rw [← Multiset.coe_add, Multiset.coe_singleton, add_comm, Multiset.singleton_add]

theorem blk23b_rel {frm : Option Event} (e : Event) {ca cb : Option Jump} {oa ob : List Jump}
    (h : SimRel ⟨frm, ca, oa⟩ ⟨frm, cb, ob⟩) : SimRel (blk23b frm ca oa e) (blk23b frm cb ob e) := by
  have hle : (ob : Multiset Jump) ≤ oa := h.out_le
  rcases blk23b_cases frm e with ⟨_, hb⟩ | hb | ⟨j, hb⟩ | ⟨j, hb⟩ <;> rw [hb, hb]
  · exact ⟨rfl, h.2⟩
  · exact ⟨rfl, Or.inl ⟨rfl, hle⟩⟩
  · exact ⟨rfl, Or.inl ⟨rfl, by rw [coe_snoc, coe_snoc]; exact Multiset.cons_le_cons j hle⟩⟩
  · exact ⟨rfl, Or.inl ⟨rfl, hle⟩⟩

theorem step_rel (mra mrb : Int) (hmr : mra ≤ mrb) (a b : St) (e : Event) (h : SimRel a b) :
    SimRel (step mra a e) (step mrb b e) := by
  obtain ⟨hf, hc⟩ := h
  rw [step_eq, step_eq, hf]
  refine blk23b_rel e ⟨rfl, ?_⟩
  rcases hc with ⟨hcc, hle⟩ | ⟨hca, c, hcb, hle⟩
  · rw [hcc]
    cases hb : b.cand with
    | none => exact Or.inl ⟨rfl, hle⟩
    | some c =>
      by_cases hB : (e.t : Int) - (c.t0 : Int) ≥ mrb
      · rw [blk1_commit _ _ _ _ (le_trans hmr hB), blk1_commit _ _ _ _ hB, coe_snoc, coe_snoc]
        exact Or.inl ⟨rfl, Multiset.cons_le_cons c hle⟩
      · by_cases hA : (e.t : Int) - (c.t0 : Int) ≥ mra
        · -- committed under the smaller residence only
          rw [blk1_commit _ _ _ _ hA, coe_snoc]
          by_cases hd : c.d ≠ e.s1
          · rw [blk1_drop _ _ _ _ hB hd]; exact Or.inl ⟨rfl, le_trans hle (Multiset.le_cons_self _ c)⟩
          · rw [blk1_keep _ _ _ _ hB hd]; exact Or.inr ⟨rfl, c, rfl, Multiset.cons_le_cons c hle⟩
        · by_cases hd : c.d ≠ e.s1
          · rw [blk1_drop _ _ _ _ hA hd, blk1_drop _ _ _ _ hB hd]; exact Or.inl ⟨rfl, hle⟩
          · rw [blk1_keep _ _ _ _ hA hd, blk1_keep _ _ _ _ hB hd]; exact Or.inl ⟨rfl, hle⟩
  · rw [hca, hcb, blk1_none]
    by_cases hB : (e.t : Int) - (c.t0 : Int) ≥ mrb
    · rw [blk1_commit _ _ _ _ hB, coe_snoc]; exact Or.inl ⟨rfl, hle⟩
    · by_cases hd : c.d ≠ e.s1
      · rw [blk1_drop _ _ _ _ hB hd]; exact Or.inl ⟨rfl, le_trans (Multiset.le_cons_self _ c) hle⟩
      · rw [blk1_keep _ _ _ _ hB hd]; exact Or.inr ⟨rfl, c, rfl, hle⟩

/-- **C04, monotonicity**: raising the minimal residence never adds jumps
(as multisets), for every event list. -/
theorem minres_monotone (mra mrb : Int) (hmr : mra ≤ mrb) (es : List Event) :
    ((run mrb St.init es).out : Multiset Jump) ≤ (run mra St.init es).out :=
  (run_rel (step_rel mra mrb hmr) es (a := St.init) (b := St.init) ⟨rfl, Or.inl ⟨rfl, le_refl _⟩⟩).out_le

/-- … and the same for the reported table (after the final filter). -/
theorem minres_monotone_reported (mra mrb : Int) (hmr : mra ≤ mrb) (es : List Event) :
    ((jumpsOfEvents mrb es : List Jump) : Multiset Jump) ≤ (jumpsOfEvents mra es : List Jump) := by
  unfold jumpsOfEvents
  exact Multiset.filter_le_filter _ (minres_monotone mra mrb hmr es)

/-- an inner-site history on which a larger residence really removes a jump -/
example :
    (jumpsOfHistory 0 [0, -1, 1, 1, -1, 2, 2] [0, -1, -1, -1, -1, 2, 2]).length = 2 ∧
    (jumpsOfHistory 5 [0, -1, 1, 1, -1, 2, 2] [0, -1, -1, -1, -1, 2, 2]).length = 1 := by decide

end G.C04
