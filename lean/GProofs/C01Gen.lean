import GGen.FormulasC01
import GProofs.Scalar
/-!
# C01 — obligations on the slice regenerated from `Trajectory.to_positions` (GGen/FormulasC01.lean); see DESIGN 12.8
-/
namespace G.C01Gen
open G

/-- the guard `coords[coords >= 1] = 0` never fires in exact arithmetic: the reported coordinate is `x mod 1` -/
theorem toPositionsCoord_eq_wrap (x : ℚ) : Gen.toPositionsCoord x = wrap x := by
  have h := (C01.wrap_range x).2
  unfold Gen.toPositionsCoord
  split_ifs with hge
  · exact absurd hge (not_le.mpr h)
  · rfl

theorem toPositionsCoord_in_unit (x : ℚ) : 0 ≤ Gen.toPositionsCoord x ∧ Gen.toPositionsCoord x < 1 := by
  rw [toPositionsCoord_eq_wrap]
  exact C01.wrap_range x

theorem toPositionsCoord_congr (x : ℚ) : ∃ k : ℤ, Gen.toPositionsCoord x = x + k := by
  rw [toPositionsCoord_eq_wrap]
  exact C01.wrap_congr x

end G.C01Gen
