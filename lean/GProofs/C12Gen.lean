import GGen.PairGuard
import GModel.Collective
/-!
# C12 — the guard chain of the pair scan REGENERATED from the source agrees with the model

`GGen/PairGuard.lean` holds the `if …: continue / break` statements at the top of the inner loop of
`Collective._compute`.
-/
namespace G.C12Gen
open G.Gen G.Coll

def rowOf (j : J) : PRow := ⟨j.atom, j.o, j.d, j.t0, j.t1⟩

/-- the generated guards never leave the loop early … -/
theorem pairGuard_no_break (ms : Int) (ei ej : PRow) : pairGuard ms ei ej ≠ .brk := by
  unfold pairGuard
  split <;> (try split) <;> (try split) <;> simp

/-- … and the model's inner loop is the generated guard chain followed by the distance test. -/
theorem inner_cons_gen (close : J → J → Bool) (ms : Int) (ei ej : J) (rest : List J) :
    inner close ms ei (ej :: rest) =
      match pairGuard ms (rowOf ei) (rowOf ej) with
      | .cont => inner close ms ei rest
      | .brk => []
      | .test => if close ei ej then (ei, ej) :: inner close ms ei rest else inner close ms ei rest := by
  -- the model's three guards decided, both sides are evaluated; the full simp set, so that a generated guard may be
  -- spelled `ms < …` or `¬ … ≤ ms` and stand in any order
  by_cases h1 : ej.t0 - ei.t1 > ms <;> by_cases h2 : ei.t0 - ej.t1 > ms <;> by_cases h3 : ei.atom = ej.atom <;>
    simp [inner, pairGuard, rowOf, h1, h2, h3]

end G.C12Gen
