import GModel.Labels
import Mathlib.Algebra.Order.Field.Rat
import Mathlib.Data.List.Induction
/-!
# C10 (continued) — the scan over the supplied peaks returns the cheapest percolating path over ALL peaks

`bestPeak` / `bestStep` (in `GModel.Labels`) model the loop over the peaks in `optimal_percolating_path`.
-/
namespace G.C10Peak
open G G.Labels

theorem bestPeak_nil : bestPeak [] = none := rfl

theorem bestPeak_concat (costs : List (Option ℚ)) (x : Option ℚ) :
    bestPeak (costs ++ [x]) = bestStep (bestPeak costs) (costs.length, x) := by
  unfold bestPeak bestPeakFrom
  rw [List.length_append, List.length_singleton, List.range_succ,
    List.zip_append (by simp), List.foldl_append]
  rfl

theorem getElem?_concat {α : Type} (l : List α) (x y : α) (j : Nat) :
    (l ++ [x])[j]? = some y ↔ l[j]? = some y ∨ (j = l.length ∧ x = y) := by
  rcases Nat.lt_trichotomy j l.length with h | rfl | h
  · rw [List.getElem?_append_left h]
    exact ⟨.inl, fun h' => h'.resolve_right fun e => h.ne e.1⟩
  · rw [List.getElem?_concat_length, List.getElem?_eq_none (Nat.le_refl _), Option.some.injEq]
    exact ⟨fun e => .inr ⟨rfl, e⟩, fun h' => h'.elim nofun (·.2)⟩
  · rw [List.getElem?_eq_none (by rw [List.length_append]; exact h), List.getElem?_eq_none h.le]
    exact ⟨nofun, fun h' => h'.elim nofun fun e => absurd e.1 h.ne'⟩

/-- the loop invariant: the result is a supplied peak with its cost, and every supplied peak is dearer, or as dear and later -/
def Inv (costs : List (Option ℚ)) (r : Option (Nat × ℚ)) : Prop :=
  (∀ k c, r = some (k, c) → costs[k]? = some (some c)) ∧
  ∀ j d, costs[j]? = some (some d) → ∃ k c, r = some (k, c) ∧ (c < d ∨ (c = d ∧ k ≤ j))

theorem bestStep_cases (r : Option (Nat × ℚ)) (n : Nat) (x : Option ℚ) :
    (bestStep r (n, x) = r ∧ ∀ d, x = some d → ∃ k c, r = some (k, c) ∧ c ≤ d) ∨
    ∃ d, x = some d ∧ bestStep r (n, x) = some (n, d) ∧ ∀ k c, r = some (k, c) → d < c := by
  cases x with
  | none => exact .inl ⟨rfl, nofun⟩
  | some d =>
    cases r with
    | none => exact .inr ⟨d, rfl, rfl, nofun⟩
    | some kb =>
      by_cases hdb : d < kb.2
      · exact .inr ⟨d, rfl, by simp [bestStep, hdb], fun k c e => by cases e; exact hdb⟩
      · exact .inl ⟨by simp [bestStep, hdb], fun d' e => ⟨kb.1, kb.2, rfl, by cases e; exact not_lt.1 hdb⟩⟩

theorem inv_step (costs : List (Option ℚ)) (x : Option ℚ) (r : Option (Nat × ℚ)) (h : Inv costs r) :
    Inv (costs ++ [x]) (bestStep r (costs.length, x)) := by
  obtain ⟨h1, h2⟩ := h
  rcases bestStep_cases r costs.length x with ⟨e, hx⟩ | ⟨d, hx, e, hr⟩ <;> rw [e]
  · refine ⟨fun k c e => (getElem?_concat ..).2 (.inl (h1 k c e)), fun j d hj => ?_⟩
    rcases (getElem?_concat ..).1 hj with hj | ⟨rfl, hxd⟩
    · exact h2 j d hj
    · obtain ⟨k, c, e, hc⟩ := hx d hxd
      -- on a tie the earlier peak, which is the one kept, wins
      exact ⟨k, c, e, hc.lt_or_eq.imp_right fun e' => ⟨e', (List.getElem?_eq_some_iff.1 (h1 k c e)).1.le⟩⟩
  · refine ⟨fun k c e => ?_, fun j d' hj => ⟨_, _, rfl, ?_⟩⟩
    · cases e; exact (getElem?_concat ..).2 (.inr ⟨rfl, hx⟩)
    · rcases (getElem?_concat ..).1 hj with hj | ⟨rfl, hxd⟩
      · obtain ⟨k, c, e, hc⟩ := h2 j d' hj
        exact .inl (lt_of_lt_of_le (hr k c e) (hc.elim le_of_lt fun h => h.1.le))
      · exact .inr ⟨Option.some.inj (hx.symm.trans hxd), le_refl _⟩

theorem bestPeak_inv (costs : List (Option ℚ)) : Inv costs (bestPeak costs) := by
  induction costs using List.reverseRecOn with
  | nil => rw [bestPeak_nil]; exact ⟨nofun, nofun⟩
  | append_singleton xs x ih => rw [bestPeak_concat]; exact inv_step xs x _ ih

theorem bestPeak_none_iff (costs : List (Option ℚ)) :
    bestPeak costs = none ↔ ∀ c ∈ costs, c = none := by
  obtain ⟨h1, h2⟩ := bestPeak_inv costs
  constructor
  · intro e c hc
    cases c with
    | none => rfl
    | some d =>
      obtain ⟨j, hj⟩ := List.getElem?_of_mem hc
      obtain ⟨k, c, e', _⟩ := h2 j d hj
      rw [e] at e'; cases e'
  · intro hall
    cases hb : bestPeak costs with
    | none => rfl
    | some kc => cases hall _ (List.mem_of_getElem? (h1 kc.1 kc.2 hb))

theorem bestPeak_mem (costs : List (Option ℚ)) (k : Nat) (c : ℚ) (h : bestPeak costs = some (k, c)) :
    k < costs.length ∧ costs[k]? = some (some c) :=
  have := (bestPeak_inv costs).1 k c h
  ⟨(List.getElem?_eq_some_iff.1 this).1, this⟩

/-- no supplied peak is cheaper than the returned one, wherever it stands in the list -/
theorem bestPeak_min (costs : List (Option ℚ)) (k : Nat) (c : ℚ) (h : bestPeak costs = some (k, c))
    (j : Nat) (d : ℚ) (hj : costs[j]? = some (some d)) : c ≤ d := by
  obtain ⟨k', c', e, hc⟩ := (bestPeak_inv costs).2 j d hj
  cases h.symm.trans e
  exact hc.elim le_of_lt fun h => h.1.le

/-- ties: the first peak of minimal cost is kept -/
theorem bestPeak_first (costs : List (Option ℚ)) (k : Nat) (c : ℚ) (h : bestPeak costs = some (k, c))
    (j : Nat) (hj : costs[j]? = some (some c)) : k ≤ j := by
  obtain ⟨k', c', e, hc⟩ := (bestPeak_inv costs).2 j c hj
  cases h.symm.trans e
  exact hc.elim (fun h => absurd h (lt_irrefl _)) fun h => h.2

/-- a peak without a percolating path anywhere in the list does not end the scan -/
example : bestPeak [some 5, none, some 3, none, some 4] = some (2, 3) := by decide +kernel
example : bestPeak [none, some 2] = some (1, 2) := by decide +kernel

end G.C10Peak
