import GModel.Fft
import GProofs.C06
import Mathlib.Data.List.GetD
/-!
# C06 (FFT step) — zero padding makes the cyclic autocorrelation the linear one
-/
namespace G.C06Fft
open G G.Traj G.Fft

/-- **C06 (padding)**: with `pad ≥ n + k` no product of the cyclic sum at lag `k` pairs a sample with one that has wrapped
around: every partner index `t + k` beyond the signal falls into the zeros. -/
theorem cyclic_eq_linear (x : List ℚ) (pad k : Nat) (h : x.length + k ≤ pad) :
    cyclicAcorr x pad k = linAcorr x k := by
  unfold cyclicAcorr linAcorr
  rw [C06.list_range_sum, C06.list_range_sum,
    ← Finset.sum_subset (Finset.range_subset_range.mpr (show x.length - k ≤ pad by omega))]
  · refine Finset.sum_congr rfl fun t ht => ?_
    have ht := Finset.mem_range.mp ht
    have h1 : t < x.length ∧ t < pad := by omega
    have h2 : (t + k) % pad = t + k := Nat.mod_eq_of_lt (by omega)
    have h3 : t + k < x.length ∧ t + k < pad := by omega
    simp only [padded, h1, h2, h3, and_self, if_true]
  · intro t _ ht2
    have ht2 := mt Finset.mem_range.mpr ht2
    by_cases htn : t < x.length
    · have h2 : (t + k) % pad = t + k := Nat.mod_eq_of_lt (by omega)
      have h3 : ¬ (t + k < x.length ∧ t + k < pad) := by omega
      simp only [padded, h2, h3, if_false, mul_zero]
    · have h1 : ¬ (t < x.length ∧ t < pad) := by omega
      simp only [padded, h1, if_false, zero_mul]

/-- the transform length the code uses is long enough for every lag it keeps … -/
theorem pad_two_n_ok (n k : Nat) (hk : k < n) : n + k ≤ 2 * n := by omega
/-- … `2n − 1` is the shortest that is -/
theorem pad_min (n pad : Nat) (hn : 0 < n) : (∀ k, k < n → n + k ≤ pad) ↔ 2 * n - 1 ≤ pad := by
  constructor
  · intro h; have := h (n - 1) (by omega); omega
  · intro h k hk; omega

/-- with a shorter transform the wrapped-around terms are counted: two frames, `pad = 2·2 − 2` -/
theorem cyclic_ne_linear_short : cyclicAcorr [1, 1] 2 1 ≠ linAcorr [1, 1] 1 := by decide +kernel

theorem s2Cyclic_eq_s2 (r : List V3) (pad m : Nat) (h : r.length + m ≤ pad) :
    s2Cyclic r pad m = s2 r m := by
  -- one coordinate track at a time
  have hc : ∀ π : V3 → ℚ, π V3.zero = 0 → cyclicAcorr (r.map π) pad m
      = ((List.range (r.length - m)).map fun t => π (r.getD t V3.zero) * π (r.getD (t + m) V3.zero)).sum := by
    intro π h0
    rw [cyclic_eq_linear _ pad m (by rwa [List.length_map]), linAcorr, List.length_map]
    -- `← h0` turns the default `0` of `linAcorr`'s `getD` into `π V3.zero`, the form `getD_map` needs (it would rewrite any
    -- other `0 : ℚ` as well; there is none)
    simp only [← h0, List.getD_map]
  unfold s2Cyclic s2
  rw [hc _ rfl, hc _ rfl, hc _ rfl, ← List.sum_map_add, ← List.sum_map_add]
  rfl

/-- **C06 (MSD, FFT step included)**: with any transform length that leaves room for the lag, the code computes the
definition. -/
theorem msdCode_eq_def_of_pad (r : List V3) (pad m : Nat) (hm : m < r.length) (hp : r.length + m ≤ pad) :
    msdCode r pad m = msdDef r m := by
  unfold msdCode
  rw [s2Cyclic_eq_s2 r pad m hp]
  exact C06.msdAlgo_eq_def r m hm

/-- the code's transform length is `2·n_times` -/
theorem msdCode_eq_def (r : List V3) (m : Nat) (hm : m < r.length) :
    msdCode r (2 * r.length) m = msdDef r m :=
  msdCode_eq_def_of_pad r _ m hm (by omega)

example : msdCode [⟨0, 0, 0⟩, ⟨1, 0, 0⟩, ⟨3, 0, 0⟩] 6 1 = 5 / 2 := by decide +kernel

end G.C06Fft
