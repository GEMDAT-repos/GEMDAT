import GModel.Metrics
import Mathlib.Algebra.BigOperators.Ring.List
import Mathlib.Algebra.Order.Field.Rat
import Mathlib.Tactic.Ring
/-!
# C14 — derived metrics obey their formulas and physical scaling laws

`tracerD` and `conductivity` are formulas written here by hand (`tracerD` has no `angstrom**2` and takes `total_time`
as `T * dt`); the formulas of `TrajectoryMetrics` as the source writes them are `Gen.*`, with the same laws in `C14Gen`.
-/
namespace G.C14
open G G.Metrics

theorem det_scale (k : ℚ) (m : M3) : (M3.scale k m).det = k ^ 3 * m.det := by
  simp only [M3.scale, V3.smul, M3.det]
  ring

theorem Q_scale (k : ℚ) (m : M3) (v : V3) : (M3.scale k m).metric.Q v = k ^ 2 * m.metric.Q v := by
  simp only [M3.scale, V3.smul, M3.metric, V3.dot, Sym3.Q]
  ring

/-- tracer diffusivity formula: mean final squared distance / (2 d N_t Δt) -/
def tracerD (meanSq : ℚ) (d : ℚ) (T dt : ℚ) : ℚ := meanSq / (2 * d * (T * dt))

theorem diffusivity_scale_cell (k meanSq d T dt : ℚ) : tracerD (k ^ 2 * meanSq) d T dt = k ^ 2 * tracerD meanSq d T dt := by
  simp only [tracerD]
  rw [mul_div_assoc]

/-- `hs` is not needed: over ℚ, with `x / 0 = 0`, the identity also holds for `s = 0`. -/
theorem diffusivity_scale_time (s meanSq d T dt : ℚ) (hs : s ≠ 0) :
    tracerD meanSq d T (s * dt) = tracerD meanSq d T dt / s := by
  unfold tracerD
  ring

/-- `n / vol` stands for the particle density N / V and `k ^ 3 * vol` for the volume of the scaled cell (`det_scale`).
`hk` is not needed, for the same reason as `hs` above. -/
theorem density_scale (k n vol : ℚ) (hk : k ≠ 0) : n / (k ^ 3 * vol) = (n / vol) / k ^ 3 := by
  rw [div_div, mul_comm]

/-- Nernst–Einstein: σ = e² z² D ρ / (k_B T) — quadratic in the ion charge -/
def conductivity (e z D rho kB temp : ℚ) : ℚ := e ^ 2 * z ^ 2 * D * rho / (kB * temp)

theorem conductivity_scale_charge (e z D rho kB temp c : ℚ) :
    conductivity e (c * z) D rho kB temp = c ^ 2 * conductivity e z D rho kB temp := by
  unfold conductivity
  ring

/-- **C14 (telescoping)**: the speeds (differences of the distance from the start, first = first
distance) add up to the final distance. -/
theorem speedOf_sum (prev : ℚ) (d : List ℚ) : (speedOf prev d).sum = d.getLastD prev - prev := by
  induction d generalizing prev with
  | nil => simp [speedOf]
  | cons a ds ih =>
    rw [speedOf, List.sum_cons, ih a, List.getLastD_cons]
    ring

theorem splitAt_flatten (arr : List ℚ) (off : Nat) (cuts : List Nat) : (splitAt arr off cuts).flatten = arr := by
  induction cuts generalizing arr off with
  | nil => simp [splitAt]
  | cons i is ih =>
    rw [splitAt, List.flatten_cons, ih, List.take_append_drop]

/-- **C14 (amplitudes)**: the vibration amplitudes of an atom sum to the sum of its speeds … -/
theorem amplitudes_sum (speed : List ℚ) : (amplitudes speed).sum = speed.sum := by
  unfold amplitudes
  rw [← List.sum_flatten, splitAt_flatten]

/-- … hence to its final distance from the starting point. -/
theorem amplitudes_sum_final (d : List ℚ) : (amplitudes (speedOf 0 d)).sum = d.getLastD 0 := by
  rw [amplitudes_sum, speedOf_sum, sub_zero]

/-- **C14 (mean frequency)**: invariant when the whole spectrum is multiplied by c ≠ 0 (amplitude scaling) … -/
theorem weightedMean_scale_power (f p : List ℚ) (c : ℚ) (hc : c ≠ 0) :
    weightedMean f (p.map (c * ·)) = weightedMean f p := by
  unfold weightedMean
  rw [List.zipWith_map_right]
  simp only [mul_left_comm _ c]
  rw [List.sum_zipWith_distrib_left, List.sum_map_mul_left, List.map_id', mul_div_mul_left _ _ hc]

/-- … and divided by s when every frequency is divided by s (time-step scaling). -/
theorem weightedMean_scale_freq (f p : List ℚ) (s : ℚ) : weightedMean (f.map (· / s)) p = weightedMean f p / s := by
  unfold weightedMean
  rw [List.zipWith_map_left, div_right_comm, div_eq_inv_mul _ s, ← List.sum_zipWith_distrib_left]
  simp only [div_eq_inv_mul, mul_assoc]

/-- **C14 (Haven ratio one)**: if every atom has the same displacement x, the mass-weighted mean is x. -/
theorem massMean_const (w : List ℚ) (x : ℚ) (hw : w.sum ≠ 0) : massMean w (w.map (fun _ => x)) = x := by
  unfold massMean
  rw [List.zipWith_map_right, List.zipWith_self, List.sum_map_mul_right, List.map_id', mul_div_cancel_left₀ _ hw]

example : amplitudes [1, 2, -1, -2, 3, 0, 1, -1] = [0, 3, 0, 1, -1] ∧ (amplitudes [1, 2, -1, -2, 3, 0, 1, -1]).sum = 3 ∧
    speedOf 0 [1, 3, 2, 0, 3, 3, 4, 3] = [1, 2, -1, -2, 3, 0, 1, -1] := by
  decide +kernel

end G.C14
