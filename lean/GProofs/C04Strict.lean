import GModel.Jumps
import GProofs.C03
import GProofs.C04
import GProofs.Machine
/-!
# C04, second clause — every strict-mode jump is a default jump and matches the states

With an inner-site fraction below one the inner history satisfies `i_t ∈ {−1, s_t}` (C02).  Then, for every minimal
residence, each jump the machine reports is one of the default jumps of the site history (same origin, destination
and start time), its origin is the state at its start time and its destination the state at its stop time.

The machine is followed in lock-step with `spec` on the site history: `last` is what `spec` carries after frame `t`,
and whatever `spec` emits from there on is a default jump.  A pending leave event is tied to `last` (`FInv`), so the
jump the machine builds from it when a site is entered is the jump `spec` emits at that frame, up to the stop time.
-/
namespace G.C04
open G.Events G.Jumps G.C19

def InnerSub (s i : List Int) : Prop :=
  s.length = i.length ∧ ∀ t, i.getD t (-1) = -1 ∨ i.getD t (-1) = s.getD t (-1)

def HasDefaultJump (s : List Int) (o d : Int) (t0 : Nat) : Prop :=
  ∃ j' ∈ defaultJumps s, j'.o = o ∧ j'.d = d ∧ j'.t0 = t0

/-- what the property says about one reported jump -/
def Good (s : List Int) (j : Jump) : Prop :=
  HasDefaultJump s j.o j.d j.t0 ∧ s.getD j.t0 (-1) = j.o ∧ s.getD j.t1 (-1) = j.d ∧
  j.o ≠ -1 ∧ j.d ≠ -1 ∧ j.o ≠ j.d ∧ j.t0 < j.t1 ∧ j.t1 < s.length

def nextLast (last : Option (Int × Nat)) (t : Nat) (x : Int) : Option (Int × Nat) :=
  if x = -1 then last else some (x, t)

theorem nextLast_neg {last : Option (Int × Nat)} {t : Nat} {x : Int} (h : x = -1) : nextLast last t x = last := if_pos h

theorem nextLast_pos {last : Option (Int × Nat)} {t : Nat} {x : Int} (h : x ≠ -1) : nextLast last t x = some (x, t) :=
  if_neg h

theorem spec_cons_sub (last : Option (Int × Nat)) (t : Nat) (x : Int) (xs : List Int) :
    spec (nextLast last t x) (t + 1) xs ⊆ spec last t (x :: xs) := by
  simp only [spec, nextLast]
  split
  · exact List.Subset.refl _
  · split
    · split
      · exact List.subset_cons_self _ _
      · exact List.Subset.refl _
    · exact List.Subset.refl _

theorem spec_cons_emit (l : Int) (tl t : Nat) (x : Int) (xs : List Int) (hx : x ≠ -1) (hlx : l ≠ x) :
    (⟨l, x, tl, t⟩ : Jump) ∈ spec (some (l, tl)) t (x :: xs) := by
  rw [spec, if_neg hx]
  exact (if_pos hlx).symm ▸ List.mem_cons_self

theorem drop_facts {s : List Int} {t : Nat} {a : Int} {rest : List Int} (h : s.drop t = a :: rest) :
    s.getD t (-1) = a ∧ t < s.length ∧ s.drop (t + 1) = rest := by
  have h1 : s[t]? = some a := by rw [← List.head?_drop, h]; rfl
  exact ⟨by rw [List.getD_eq_getElem?_getD, h1]; rfl, (List.getElem?_eq_some_iff.mp h1).1,
    by rw [← List.tail_drop, h]; rfl⟩

/-- the pending leave event `f` at frame `t` (state `a`): the atom left the site `f.s0` at frame `f.t`; while it is
at no site, `f` led to no site and `spec` still carries the departure; once it is at another site than `f.s0`, that
move is a default jump -/
structure FInv (s : List Int) (a : Int) (t : Nat) (f : Event) (last : Option (Int × Nat)) : Prop where
  site : f.s0 ≠ -1
  left : s.getD f.t (-1) = f.s0
  before : f.t < t
  away : a = -1 → f.s1 = -1 ∧ last = some (f.s0, f.t)
  moved : a ≠ -1 → a ≠ f.s0 → HasDefaultJump s f.s0 a f.t

/-- after frame `t` (value `a`): everything emitted or pending is `Good`, a pending leave event satisfies `FInv` -/
structure SInv (s : List Int) (a : Int) (t : Nat) (st : St) (last : Option (Int × Nat)) : Prop where
  out : ∀ j ∈ st.out, Good s j
  cand : ∀ c, st.cand = some c → Good s c
  frm : ∀ f, st.frm = some f → FInv s a t f last
  last : a ≠ -1 → last = some (a, t)

theorem SInv.clear {s : List Int} {a : Int} {t : Nat} {out : List Jump} {last : Option (Int × Nat)}
    (ho : ∀ j ∈ out, Good s j) (hl : a ≠ -1 → last = some (a, t)) : SInv s a t ⟨none, none, out⟩ last where
  out := ho
  cand _ h := nomatch h
  frm _ h := nomatch h
  last := hl

/-- a leave event that stays pending while the state goes from `a` to `b`: the atom stays where it is or enters `b`
from no site -/
theorem FInv.next {s : List Int} {a b : Int} {t : Nat} {f : Event} {last : Option (Int × Nat)}
    (h : FInv s a t f last) (hab : a = -1 ∨ a = b)
    (hE : ∀ l tl, b ≠ -1 → last = some (l, tl) → l ≠ b → HasDefaultJump s l b tl) :
    FInv s b (t + 1) f (nextLast last (t + 1) b) where
  site := h.site
  left := h.left
  before := Nat.lt_succ_of_lt h.before
  away hb := by
    rw [nextLast_neg hb]
    exact h.away (hab.elim id (·.trans hb))
  moved hb hbf := by
    rcases hab with ha | rfl
    · exact hE _ _ hb (h.away ha).2 (Ne.symm hbf)
    · exact h.moved hb hbf

theorem blk1_pres (P : Jump → Prop) (mr : Int) (cand : Option Jump) (out : List Jump) (e : Event)
    (ho : ∀ j ∈ out, P j) (hc : ∀ c, cand = some c → P c) :
    (∀ j ∈ (blk1 mr cand out e).2, P j) ∧ (∀ c, (blk1 mr cand out e).1 = some c → P c) := by
  rcases blk1_cases mr cand e with h | h | ⟨c, hcc, h⟩ <;> rw [h]
  · exact ⟨ho, hc⟩
  · exact ⟨ho, (fun _ h => nomatch h)⟩
  · exact ⟨List.forall_mem_append.mpr ⟨ho, List.forall_mem_singleton.mpr (hc c hcc)⟩, (fun _ h => nomatch h)⟩

/-- blocks 2–3 on the event of frame `t`, from a pending leave event that is already seen from frame `t + 1` -/
theorem blk23b_inv {s : List Int} {t : Nat} {a b x y : Int} {f : Event} {cand : Option Jump}
    {out : List Jump} {last : Option (Int × Nat)}
    (hsb : s.getD (t + 1) (-1) = b) (hlen : t + 1 < s.length) (hy : y = -1 ∨ y = b)
    (ho : ∀ j ∈ out, Good s j) (hc : ∀ c, cand = some c → Good s c)
    (hf : FInv s b (t + 1) f last) (hlast : b ≠ -1 → last = some (b, t + 1)) :
    SInv s b (t + 1) (blk23b (some f) cand out ⟨t, a, b, x, y⟩) last := by
  have mk : b ≠ -1 → b ≠ f.s0 → Good s (mkJ f ⟨t, a, b, x, y⟩) := fun hb hbf =>
    ⟨hf.moved hb hbf, hf.left, hsb, hf.site, hb, Ne.symm hbf, hf.before, hlen⟩
  by_cases h1 : b = f.s0
  · rw [blk23b_back h1]
    exact .clear ho hlast
  · by_cases h2 : y ≠ -1
    · rw [blk23b_emit h1 h2]
      have hb : b ≠ -1 := hy.resolve_left h2 ▸ h2
      exact .clear (List.forall_mem_append.mpr ⟨ho, List.forall_mem_singleton.mpr (mk hb h1)⟩) hlast
    · by_cases h3 : b ≠ f.s1
      · rw [blk23b_propose h1 h2 h3]
        have hb : b ≠ -1 := fun hb => h3 (hb.trans (hf.away hb).1.symm)
        exact { out := ho, cand := fun c hc' => Option.some.inj hc' ▸ mk hb h1, frm := (fun _ h => nomatch h),
                last := hlast }
      · rw [blk23b_hold h1 h2 h3]
        exact { out := ho, cand := hc, frm := fun f' hf' => Option.some.inj hf' ▸ hf, last := hlast }

theorem step_inv (mr : Int) {s : List Int} {t : Nat} {a b x y : Int} {st : St} {last : Option (Int × Nat)}
    (hsa : s.getD t (-1) = a) (hsb : s.getD (t + 1) (-1) = b) (hlen : t + 1 < s.length)
    (hy : y = -1 ∨ y = b)
    (hE : ∀ l tl, b ≠ -1 → last = some (l, tl) → l ≠ b → HasDefaultJump s l b tl)
    (inv : SInv s a t st last) :
    SInv s b (t + 1) (step mr st ⟨t, a, b, x, y⟩) (nextLast last (t + 1) b) := by
  obtain ⟨ho, hc⟩ := blk1_pres (Good s) mr st.cand st.out ⟨t, a, b, x, y⟩ inv.out inv.cand
  rw [step_eq]
  by_cases hnew : a ≠ -1 ∧ a ≠ b
  · -- the event itself becomes the pending leave event
    have hl := inv.last hnew.1
    rw [if_pos hnew]
    exact blk23b_inv hsb hlen hy ho hc
      { site := hnew.1, left := hsa, before := Nat.lt_succ_self t
        away := fun hb => ⟨hb, (nextLast_neg hb).trans hl⟩
        moved := fun hb hba => hE a t hb hl (Ne.symm hba) } nextLast_pos
  · rw [if_neg hnew]
    cases hfr : st.frm with
    | none => exact { out := ho, cand := hc, frm := (fun _ h => nomatch h), last := nextLast_pos }
    | some f =>
      exact blk23b_inv hsb hlen hy ho hc
        ((inv.frm f hfr).next ((not_and_or.mp hnew).imp not_not.mp not_not.mp) hE) nextLast_pos

theorem idle_inv {s : List Int} {t : Nat} {a : Int} {st : St} {last : Option (Int × Nat)}
    (hE : ∀ l tl, a ≠ -1 → last = some (l, tl) → l ≠ a → HasDefaultJump s l a tl)
    (inv : SInv s a t st last) : SInv s a (t + 1) st (nextLast last (t + 1) a) :=
  { inv with frm := fun f hf => (inv.frm f hf).next (.inr rfl) hE, last := nextLast_pos }

theorem run_good (mr : Int) (s : List Int) {rest irest : List Int} {a x : Int} {t : Nat} {st : St}
    {last : Option (Int × Nat)} (hdrop : s.drop t = a :: rest) (hsub : InnerSub (a :: rest) (x :: irest))
    (hfut : spec last (t + 1) rest ⊆ defaultJumps s) (inv : SInv s a t st last) :
    ∀ j ∈ (run mr st (eventsSpec t (a :: rest) (x :: irest))).out, Good s j := by
  induction rest generalizing irest a x t st last with
  | nil => exact inv.out
  | cons b rest ih =>
    obtain _ | ⟨y, irest⟩ := irest
    · cases hsub.1
    obtain ⟨hsa, _, hdrop'⟩ := drop_facts hdrop
    obtain ⟨hsb, hlen, _⟩ := drop_facts hdrop'
    have hsub' : InnerSub (b :: rest) (y :: irest) := ⟨Nat.succ.inj hsub.1, fun t => hsub.2 (t + 1)⟩
    have hfut' : spec (nextLast last (t + 1) b) (t + 1 + 1) rest ⊆ defaultJumps s :=
      fun _ h => hfut (spec_cons_sub _ _ _ _ h)
    have hE : ∀ l tl, b ≠ -1 → last = some (l, tl) → l ≠ b → HasDefaultJump s l b tl := fun l tl hb hl hlb =>
      ⟨_, hfut (hl ▸ spec_cons_emit l tl (t + 1) b rest hb hlb), rfl, rfl, rfl⟩
    rw [eventsSpec]
    by_cases hev : a ≠ b ∨ x ≠ y
    · rw [if_pos hev]
      exact ih hdrop' hsub' hfut' (step_inv mr hsa hsb hlen (hsub.2 1) hE inv)
    · rw [if_neg hev]
      obtain rfl : a = b := Decidable.not_not.mp fun h => hev (Or.inl h)
      exact ih hdrop' hsub' hfut' (idle_inv hE inv)

/-- **C04 (strict modes)**: every reported jump is `Good`, written out (the statement at the head of the file). -/
theorem strict_subset_default (mr : Int) (s i : List Int) (h : InnerSub s i) (j : Jump)
    (hj : j ∈ jumpsOfHistory mr s i) :
    (∃ j' ∈ defaultJumps s, j'.o = j.o ∧ j'.d = j.d ∧ j'.t0 = j.t0) ∧
    s.getD j.t0 (-1) = j.o ∧ s.getD j.t1 (-1) = j.d ∧
    j.o ≠ -1 ∧ j.d ≠ -1 ∧ j.o ≠ j.d ∧ j.t0 < j.t1 ∧ j.t1 < s.length := by
  have hj' : j ∈ (run mr St.init (eventsSpec 0 s i)).out :=
    G.C03.eventsAlgo_eq_spec s i h.1 ▸ (List.mem_filter.mp hj).1
  show Good s j
  cases s with
  | nil => cases hj'
  | cons a rest =>
    cases i with
    | nil => cases h.1
    | cons x irest =>
      exact run_good mr (a :: rest) (t := 0) (st := St.init) rfl h (spec_cons_sub none 0 a rest)
        (.clear (fun _ h => nomatch h) nextLast_pos) j hj'

/-- an inner-mode history on which the machine reports a jump later than the default one -/
example : InnerSub [0, 1, 1, 1] [0, -1, -1, 1] ∧
    jumpsOfHistory 0 [0, 1, 1, 1] [0, -1, -1, 1] = [⟨0, 1, 0, 3⟩] ∧
    defaultJumps [0, 1, 1, 1] = [⟨0, 1, 0, 1⟩] := by
  refine ⟨⟨rfl, fun t => ?_⟩, by decide, by decide⟩
  match t with
  | 0 | 3 => exact .inr rfl
  | 1 | 2 | _ + 4 => exact .inl rfl

end G.C04
