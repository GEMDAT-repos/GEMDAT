import GGen.FormulasC02
import GProofs.C02
import Mathlib.Tactic.Linarith
import Mathlib.Tactic.Ring
/-!
# C02 — obligations on the formula slice regenerated from /repo's source (GGen/FormulasC02.lean): `_compute_site_radius`
(DESIGN 12.8)
-/
namespace G.C02Gen
open G

/-- whatever radius is returned, two spheres of that radius around the closest pair of sites do not overlap -/
theorem autoRadius_no_overlap (vib d r : ℚ) (h : Gen.autoRadius vib d = some r) : 2 * r ≤ d := by
  unfold Gen.autoRadius at h
  -- (`split_ifs` discards the `none = some r` branch by itself)
  split_ifs at h <;> (have hr := Option.some.inj h; subst hr; linarith)

/-- when the radius had to be reduced the spheres are strictly disjoint, with the margin of C02.auto_radius_disjoint -/
theorem autoRadius_shrunk (vib d r : ℚ) (hd : d < 4 * vib) (h : Gen.autoRadius vib d = some r) :
    r = d / 2 - 5 / 1000 ∧ 1 / 4 ≤ r ∧ 4 * r ^ 2 < d ^ 2 := by
  have hr : r = d / 2 - 5 / 1000 ∧ 1 / 4 ≤ r := by
    unfold Gen.autoRadius at h
    -- `exfalso; linarith` closes the branch that keeps `2·vib` (its test contradicts `hd`); the other alternative is the
    -- branch of the reduced radius, where the failed error test `h1` leaves `hB : ½ ≤ (d/2 − 1/200)·2`
    split_ifs at h with h1 h2 <;> first
      | (exfalso; linarith)
      | (have hr := Option.some.inj h
         subst hr
         have hB := not_lt.mp (fun hb => h1 ⟨by assumption, hb⟩)
         constructor <;> linarith)
  obtain ⟨hr1, hr2⟩ := hr
  exact ⟨hr1, hr2, C02.auto_radius_disjoint d r (by linarith) (by linarith)⟩

theorem autoRadius_kept (vib d : ℚ) (hd : 4 * vib ≤ d) : Gen.autoRadius vib d = some (2 * vib) := by
  unfold Gen.autoRadius
  split_ifs with h1 h2
  · exfalso
    linarith [h1.1, h1.2]
  · exfalso
    linarith
  · exact congrArg some (by ring)

/-- the error branch: sites closer than 0.51 Å whose spheres would overlap -/
theorem autoRadius_none_iff (vib d : ℚ) : Gen.autoRadius vib d = none ↔ d < 4 * vib ∧ d < 51 / 100 := by
  unfold Gen.autoRadius
  constructor
  · intro h
    split_ifs at h with hc
    exact ⟨by linarith [hc.1, hc.2], by linarith [hc.1, hc.2]⟩
  · rintro ⟨h1, h2⟩
    rw [if_pos]
    exact ⟨by linarith, by linarith⟩

example : Gen.autoRadius (6 / 10) (24 / 10) = some (12 / 10) := by decide +kernel
example : Gen.autoRadius 1 (24 / 10) = some (1195 / 1000) := by decide +kernel
example : Gen.autoRadius 1 (1 / 2) = none := by decide +kernel

/-- the separations that enter are minimum-image distances of the SIMULATION cell (not of the site structure's own cell) -/
theorem site_separations_in_simulation_cell : Gen.siteSeparationsInSimulationCell = true := by
  rfl

end G.C02Gen
