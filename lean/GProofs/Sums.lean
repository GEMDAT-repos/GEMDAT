/-!
# Sums over lists in a commutative additive monoid given by core's `Std` classes

Core Lean only: the statements of C05 are elaborated without Mathlib, and under Mathlib's instances
their `Zero ℕ` would be a different term.  The one idea here is `sum_group`: split a list by a key,
sum each group, sum over a duplicate-free list of keys, and the total is the sum over the list.
-/
namespace G.C05
section Sums
-- every theorem of the section takes all five instances, whichever of them its proof uses
set_option linter.unusedSectionVars false
variable {α : Type} [Add α] [Zero α]
  [Std.Associative (α := α) (· + ·)] [Std.Commutative (α := α) (· + ·)]
  [Std.LawfulIdentity (α := α) (· + ·) 0]

theorem add_zero' (a : α) : a + 0 = a := Std.LawfulRightIdentity.right_id (op := (· + ·)) a
theorem zero_add' (a : α) : 0 + a = a := Std.LawfulLeftIdentity.left_id (op := (· + ·)) a

theorem sum_map_add {β : Type} (l : List β) (f g : β → α) :
    (l.map (fun x => f x + g x)).sum = (l.map f).sum + (l.map g).sum := by
  have assoc : ∀ x y z : α, x + y + z = x + (y + z) := Std.Associative.assoc (op := (· + ·))
  have comm : ∀ x y : α, x + y = y + x := Std.Commutative.comm (op := (· + ·))
  induction l with
  | nil => simp [zero_add']
  | cons x xs ih =>
    simp only [List.map_cons, List.sum_cons, ih]
    rw [assoc, assoc, ← assoc (g x), ← assoc (List.sum _), comm (g x)]

theorem sum_map_zero {β : Type} (l : List β) (f : β → α) (h : ∀ x ∈ l, f x = 0) :
    (l.map f).sum = 0 := by
  induction l with
  | nil => rfl
  | cons x xs ih =>
    rw [List.map_cons, List.sum_cons, h x List.mem_cons_self,
      ih (fun y hy => h y (List.mem_cons_of_mem _ hy)), zero_add']

theorem sum_map_ite_eq {β : Type} [DecidableEq β] {l : List β} (hnd : l.Nodup) {a : β} (ha : a ∈ l)
    (g : β → α) : (l.map (fun k => if a = k then g k else 0)).sum = g a := by
  induction l with
  | nil => cases ha
  | cons k ks ih =>
    rw [List.nodup_cons] at hnd
    rw [List.map_cons, List.sum_cons]
    by_cases h : a = k
    · subst h
      rw [if_pos rfl, sum_map_zero _ _ (fun k' hk' => if_neg (fun e : a = k' => hnd.1 (e ▸ hk'))), add_zero']
    · rw [if_neg h, zero_add', ih hnd.2 ((List.mem_cons.1 ha).resolve_left h)]

theorem sum_group {ι β : Type} [DecidableEq β] (f : ι → β) (w : ι → α) {ks : List β} (hnd : ks.Nodup)
    (l : List ι) (hall : ∀ x ∈ l, f x ∈ ks) :
    (ks.map (fun k => ((l.filter (fun x => f x = k)).map w).sum)).sum = (l.map w).sum := by
  induction l with
  | nil => exact sum_map_zero _ _ (fun _ _ => rfl)
  | cons x xs ih =>
    have hstep : ∀ k, (((x :: xs).filter (fun x => f x = k)).map w).sum
        = (if f x = k then w x else 0) + ((xs.filter (fun x => f x = k)).map w).sum := by
      intro k
      by_cases h : f x = k <;> simp [h, zero_add']
    simp only [hstep, sum_map_add, List.map_cons, List.sum_cons]
    rw [ih (fun y hy => hall y (List.mem_cons_of_mem _ hy)),
      sum_map_ite_eq hnd (hall x List.mem_cons_self) (fun _ => w x)]

end Sums

theorem sum_map_one {γ : Type} (l : List γ) : (l.map (fun _ => 1)).sum = l.length := by
  rw [List.map_const', List.sum_replicate_nat, Nat.mul_one]

theorem sum_group_length {ι β : Type} [DecidableEq β] (f : ι → β) {ks : List β} (hnd : ks.Nodup)
    (l : List ι) (hall : ∀ x ∈ l, f x ∈ ks) :
    (ks.map (fun k => (l.filter (fun x => f x = k)).length)).sum = l.length := by
  simpa only [sum_map_one] using sum_group f (fun _ => (1 : Nat)) hnd l hall

end G.C05
