import GModel.Rdf
import Mathlib.Data.List.Perm.Basic
import Mathlib.Tactic.Positivity
/-!
# C11 — radial distributions equal brute-force histograms and partition over states

Every (floating atom, other atom) pair of a frame contributes exactly ONE (state, symbol, bin) cell, so the
per-state distributions partition the pair counts.
-/
namespace G.C11
open G G.Rdf

/-- the scan visits `nb − fuel, nb − fuel + 1, …`: hence the lower bound on `j` -/
theorem binRightAux_spec (res dsq : ℚ) (nb fuel : Nat) (h : fuel ≤ nb) :
    binRightAux res dsq nb fuel ≤ nb ∧
      (binRightAux res dsq nb fuel < nb → dsq ≤ ((binRightAux res dsq nb fuel : ℚ) * res) ^ 2) ∧
      ∀ j, nb - fuel ≤ j → j < binRightAux res dsq nb fuel → ((j : ℚ) * res) ^ 2 < dsq := by
  induction fuel with
  | zero => exact ⟨le_rfl, fun hlt => absurd hlt (lt_irrefl nb), fun j h1 h2 => absurd h2 (by rw [binRightAux]; omega)⟩
  | succ n ih =>
    rw [binRightAux]
    split_ifs with hc
    · exact ⟨Nat.sub_le .., fun _ => hc, fun j h1 h2 => absurd h2 (by omega)⟩
    · obtain ⟨h1, h2, h3⟩ := ih (Nat.le_of_succ_le h)
      refine ⟨h1, h2, fun j hj hjk => ?_⟩
      rcases Nat.eq_or_lt_of_le hj with rfl | hj'
      · exact not_le.mp hc
      · exact h3 j (by omega) hjk

theorem binRight_le (res : ℚ) (nb : Nat) (dsq : ℚ) : binRight res nb dsq ≤ nb :=
  (binRightAux_spec res dsq nb nb le_rfl).1

/-- **C11 (bin of a distance)**: the bin is the least `k < nb` with `dsq ≤ (k·res)²`; the overflow
bin `nb` is used exactly when no such `k` exists. -/
theorem binRight_spec (res : ℚ) (nb : Nat) (dsq : ℚ) :
    let k := binRight res nb dsq
    (k < nb → dsq ≤ ((k : ℚ) * res) ^ 2) ∧ (∀ j, j < k → j < nb → ((j : ℚ) * res) ^ 2 < dsq) :=
  have ⟨_, h2, h3⟩ := binRightAux_spec res dsq nb nb le_rfl
  ⟨h2, fun j hj _ => h3 j (by omega) hj⟩

/-- **C11 (partition)**: a frame yields exactly one contribution per (floating atom, atom) pair. -/
theorem frameContribs_length (G : Sym3) (res : ℚ) (nb : Nat) (coords : List V3) (floating : List Nat)
    (codes : List Int) (symOf : List Nat) (hc : codes.length = floating.length) (hs : symOf.length = coords.length) :
    (frameContribs G res nb coords floating codes symOf).length = floating.length * coords.length := by
  unfold frameContribs
  rw [List.length_flatMap]
  simp only [List.length_map, List.length_zip, hs, Nat.min_self]
  rw [List.map_const', List.sum_replicate_nat, List.length_zip, hc, Nat.min_self]

theorem frameContribs_mem (G : Sym3) (res : ℚ) (nb : Nat) (coords : List V3) (floating : List Nat)
    (codes : List Int) (symOf : List Nat) (c : Contribution)
    (h : c ∈ frameContribs G res nb coords floating codes symOf) :
    c.code ∈ codes ∧ c.sym ∈ symOf ∧ c.bin ≤ nb := by
  obtain ⟨fc, hfc, h⟩ := List.mem_flatMap.mp h
  obtain ⟨cs, hcs, rfl⟩ := List.mem_map.mp h
  exact ⟨(List.of_mem_zip (a := fc.1) (b := fc.2) hfc).2, (List.of_mem_zip (a := cs.1) (b := cs.2) hcs).2,
    binRight_le _ _ _⟩

/-- **C11 (state codes)**: with fewer than 999 labels the code `i·10⁶ + j·10³ + k` is injective: the indices
−1, …, 998 are the 1000 digits of base 1000.  `hi`, `hi'` are not needed. -/
theorem stateCode_injective (i j k i' j' k' : Int)
    (hi : -1 ≤ i ∧ i < 999) (hj : -1 ≤ j ∧ j < 999) (hk : -1 ≤ k ∧ k < 999)
    (hi' : -1 ≤ i' ∧ i' < 999) (hj' : -1 ≤ j' ∧ j' < 999) (hk' : -1 ≤ k' ∧ k' < 999)
    (h : stateCode i j k = stateCode i' j' k') : i = i' ∧ j = j' ∧ k = k' := by
  unfold stateCode at h
  omega

/-- **C11 (labels)**: a site state is mapped to the label of that very site, "no site" to "none".  The bound
`n < labelIdx.length` is not needed. -/
theorem uniqify_spec (labelIdx : List Int) (state : Int) :
    (state = -1 → uniqify labelIdx state = -1) ∧
    (∀ n : Nat, state = n → n < labelIdx.length → uniqify labelIdx state = labelIdx.getD n (-1)) := by
  refine ⟨fun h => by subst h; simp [uniqify], fun n hn _ => ?_⟩
  subst hn
  simp [uniqify]

/-- defect D8 (repaired): the original lookup gave site 1 the label of site 0 and site 0 "none" -/
theorem uniqifyAsWas_counterexample :
    uniqifyAsWas [0, 1, 0] 0 = -1 ∧ uniqifyAsWas [0, 1, 0] 1 = 0 ∧ uniqify [0, 1, 0] 0 = 0 ∧ uniqify [0, 1, 0] 1 = 1 := by
  decide

/-- `np.histogram`: bin `k` holds `(k·res)² ≤ dsq < ((k+1)·res)²`, the last bin also its right edge.  `hd` is not
needed. -/
theorem binLeft_spec (res : ℚ) (hres : 0 < res) (nb : Nat) (dsq : ℚ) (hd : 0 ≤ dsq) (k : Nat)
    (h : binLeft res nb dsq = some k) :
    k + 1 < nb ∧ ((k : ℚ) * res) ^ 2 ≤ dsq ∧
      (dsq < (((k + 1 : Nat) : ℚ) * res) ^ 2 ∨ (k + 2 = nb ∧ dsq = (((k + 1 : Nat) : ℚ) * res) ^ 2)) := by
  unfold binLeft at h
  split_ifs at h with hnb hd2
  · obtain rfl : nb - 2 = k := Option.some.inj h
    have hk1 : nb - 2 + 1 = nb - 1 := by omega
    refine ⟨by omega, ?_, Or.inr ⟨by omega, hk1 ▸ hd2⟩⟩
    rw [hd2]
    exact pow_le_pow_left₀ (by positivity)
      (mul_le_mul_of_nonneg_right (Nat.cast_le.mpr (by omega)) hres.le) 2
  · split at h
    · rename_i k' hfind
      obtain rfl : k' = k := Option.some.inj h
      have hmem := List.mem_range.mp (List.mem_of_find?_eq_some hfind)
      have hp := List.find?_some hfind
      simp only [Bool.and_eq_true, decide_eq_true_eq] at hp
      exact ⟨by omega, hp.1, Or.inl hp.2⟩
    · cases h

theorem flatMap_map_swap_perm {α β : Type} (A B : List α) (g : α → α → β) :
    (A.flatMap fun p => B.map (g p)).Perm (B.flatMap fun q => A.map (g · q)) := by
  induction A with
  | nil => simp
  | cons a t ih =>
    exact (ih.append_left _).trans (List.map_append_flatMap_perm B (g a) _)

/-- **C11 (symmetry)**: raw pair counts do not depend on the order of the two species: for a symmetric pair function
the multiset of values over A × B equals that over B × A. -/
theorem pair_count_symm {α β : Type} [DecidableEq β] (A B : List α) (f : α → α → β) (hf : ∀ p q, f p q = f q p) (x : β) :
    ((A.flatMap (fun p => B.map (fun q => f p q))).count x) = ((B.flatMap (fun q => A.map (fun p => f q p))).count x) := by
  have hswap : (fun q => A.map (fun p => f q p)) = (fun q => A.map (fun p => f p q)) :=
    funext fun q => List.map_congr_left fun p _ => hf q p
  rw [hswap]
  exact (flatMap_map_swap_perm A B f).count_eq x

example : binRight (1/2) 5 (9/16) = 2 ∧ binRight (1/2) 5 1 = 2 ∧ binRight (1/2) 5 0 = 0 ∧ binRight (1/2) 5 5 = 5 ∧
    binLeft (1/2) 5 1 = some 2 ∧ binLeft (1/2) 5 4 = some 3 ∧ binLeft (1/2) 5 5 = none := by
  decide +kernel

end G.C11
