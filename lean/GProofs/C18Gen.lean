import GGen.FormulasC18
import GModel.Orient
import GProofs.C18
import Mathlib.Tactic.Linarith
/-!
# C18 — obligations on the formula slice regenerated from /repo's source (GGen/FormulasC18.lean):
the ±1 wrap of `Orientations._fractional_directions`
-/
namespace G.C18Gen
open G

/-- so `C18.direction_spec` and `direction_is_short_image` apply to the generated wrap -/
theorem fracDirection_eq_model (sat cent : ℚ) : Gen.fracDirection sat cent = Orient.wrapHalf (sat - cent) := by
  unfold Gen.fracDirection Orient.wrapHalf
  simp only [gt_iff_lt]
  -- every combination of tests, each closed by `linarith`: the obligation stays provable
  -- however the source nests, orders or spells its two wrap tests
  split_ifs <;> linarith

theorem fracDirection_spec (sat cent : ℚ) (hs0 : 0 ≤ sat) (hs1 : sat < 1) (hc0 : 0 ≤ cent) (hc1 : cent < 1) :
    |Gen.fracDirection sat cent| ≤ 1 / 2 ∧
    (Gen.fracDirection sat cent = sat - cent - 1 ∨ Gen.fracDirection sat cent = sat - cent ∨ Gen.fracDirection sat cent = sat - cent + 1) := by
  rw [fracDirection_eq_model]
  refine ⟨C18.wrapHalf_sub_range hc0 hc1 hs0 hs1, ?_⟩
  unfold Orient.wrapHalf
  split_ifs
  · exact Or.inl rfl
  · exact Or.inr (Or.inr rfl)
  · exact Or.inr (Or.inl rfl)

theorem fracDirection_small (sat cent : ℚ) (h : |sat - cent| ≤ 1 / 2) : Gen.fracDirection sat cent = sat - cent := by
  rw [fracDirection_eq_model]
  rw [abs_le] at h
  unfold Orient.wrapHalf
  rw [if_neg (by linarith [h.2]), if_neg (by linarith [h.1])]

end G.C18Gen
