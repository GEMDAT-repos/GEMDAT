import GModel.Traj
import GProofs.C01
/-!
# C15 — select / slice / split / extend and read-only queries never alter the data

Every statement is about `absPos s`, the wrapped positions a state denotes (what `.positions` returns), so it
holds whichever representation the source is currently in.
-/
namespace G.C15
open G G.Traj G.C01

/-- componentwise congruence modulo whole cells, in the index form in which `WF` below is written; the proofs use the
`Forall₂` form `G.C01.Cong`, and `to01` / `to15` are the only two places where one form is turned into the other -/
def Cong (a b : Frame) : Prop := a.length = b.length ∧ ∀ j, ∃ k : ℤ, a.getD j 0 = b.getD j 0 + k

/-- states the API can produce: rectangular, in position mode the base position is the first frame modulo 1, a displacement-mode
state starts with a zero frame -/
def WF (n : Nat) (s : TState) : Prop :=
  s.base.length = n ∧ (∀ f ∈ s.coords, f.length = n) ∧ s.coords ≠ [] ∧
  (s.disp = false → Cong s.base (s.coords.headD [])) ∧
  (s.disp = true → ∀ v ∈ s.coords.headD [], v = 0)

theorem Cong.to01 {a b : Frame} (h : Cong a b) : G.C01.Cong a b := cong_of_getD h.1 h.2

theorem _root_.G.C01.Cong.to15 {a b : Frame} (h : G.C01.Cong a b) : Cong a b := ⟨h.length_eq, h.getD⟩

theorem WF.rect {n : Nat} {s : TState} (h : WF n s) : Rect s.coords n := h.2.1

/-- `WF` as a case distinction; apart from `WF.rect`, every proof about `WF` goes through `wf_iff` and these two
cases -/
inductive Shape (n : Nat) : TState → Prop
  | pos {f : Frame} {rest : List Frame} {base : Frame} : base.length = n → f.length = n → Rect rest n →
      G.C01.Cong base f → Shape n ⟨false, f :: rest, base⟩
  | disp {rest : List Frame} {base : Frame} : base.length = n → Rect rest n →
      Shape n ⟨true, List.replicate n 0 :: rest, base⟩

theorem wf_iff {n : Nat} {s : TState} : WF n s ↔ Shape n s := by
  constructor
  · rintro ⟨hb, hr, hne, hp, hd⟩
    obtain ⟨dsp, _ | ⟨f, rest⟩, base⟩ := s
    · exact absurd rfl hne
    · obtain ⟨hf, hr'⟩ := rect_cons.mp hr
      cases dsp
      · exact .pos hb hf hr' (hp rfl).to01
      · have hz : f = List.replicate n 0 := hf ▸ eq_replicate_zero (hd rfl)
        exact hz ▸ .disp hb hr'
  · rintro (⟨hb, hf, hr, hc⟩ | ⟨hb, hr⟩)
    · exact ⟨hb, rect_cons.mpr ⟨hf, hr⟩, List.cons_ne_nil _ _, fun _ => hc.to15, nofun⟩
    · exact ⟨hb, rect_cons.mpr ⟨List.length_replicate, hr⟩, List.cons_ne_nil _ _, nofun,
        fun _ v hv => (List.mem_replicate.mp hv).2⟩

theorem absPos_of_pos (s : TState) (h : s.disp = false) : absPos s = s.coords.map (·.map wrap) := by
  simp [absPos, toPositions, h]

theorem absPos_of_disp (s : TState) (h : s.disp = true) :
    absPos s = ((cumsum s.coords).map (vadd s.base)).map (·.map wrap) := by
  simp [absPos, toPositions, h]

theorem toPositions_disp {n : Nat} {rest : List Frame} {base : Frame} (hb : base.length = n) :
    toPositions ⟨true, List.replicate n 0 :: rest, base⟩
      = ⟨false, (base :: cumsumFrom base rest).map (·.map wrap), base⟩ := by
  subst hb
  simp only [toPositions, if_true, cumsum_zero_cons]

theorem toDisplacements_pos {n : Nat} {f : Frame} (hf : f.length = n) (rest : List Frame) (base : Frame) :
    toDisplacements ⟨false, f :: rest, base⟩ = ⟨true, List.replicate n 0 :: diffs f rest, base⟩ := by
  subst hf
  simp [toDisplacements, toDispCoords, zerosLike_eq]

theorem length_map_wrap {n : Nat} (f : Frame) (h : f.length = n) : (f.map wrap).length = n := by
  rw [List.length_map, h]

theorem fresh_wf (c : List Frame) (n : Nat) (hr : Rect c n) (hne : c ≠ []) : WF n (fresh c) := by
  cases c with
  | nil => exact absurd rfl hne
  | cons f rest =>
    obtain ⟨hf, hr⟩ := rect_cons.mp hr
    exact wf_iff.mpr (.pos hf hf hr (.refl f))

theorem toPositions_wf (n : Nat) (s : TState) (h : WF n s) : WF n (toPositions s) := by
  rw [wf_iff] at h ⊢
  cases h with
  | pos hb hf hr hc => exact .pos hb (length_map_wrap _ hf) (hr.map length_map_wrap) hc.map_wrap_right
  | disp hb hr =>
    rw [toPositions_disp hb]
    exact .pos hb (length_map_wrap _ hb) ((rect_cumsumFrom hb hr).map length_map_wrap) (Cong.refl _).map_wrap_right

theorem WF.rect_absPos {n : Nat} {s : TState} (h : WF n s) : Rect (absPos s) n := (toPositions_wf n s h).rect

theorem toDisplacements_wf (n : Nat) (s : TState) (h : WF n s) : WF n (toDisplacements s) := by
  rw [wf_iff] at h ⊢
  cases h with
  | pos hb hf hr hc => rw [toDisplacements_pos hf]; exact .disp hb (rect_diffs hf hr)
  | disp hb hr => exact .disp hb hr

theorem map_wrap_of_wrapped (f : Frame) (h : ∀ v ∈ f, wrap v = v) : f.map wrap = f :=
  (List.map_congr_left h).trans (List.map_id' f)

theorem map_wrap_of_wrapped_frames {c : List Frame} (h : ∀ f ∈ c, ∀ v ∈ f, wrap v = v) : c.map (·.map wrap) = c :=
  (List.map_congr_left fun f hf => map_wrap_of_wrapped f (h f hf)).trans (List.map_id' c)

theorem wrapped_absPos (s : TState) : ∀ f ∈ absPos s, ∀ v ∈ f, wrap v = v := fun f hf v hv =>
  have h := positions_in_unit s f hf v hv
  wrap_of_unit h.1 h.2

theorem absPos_fresh (c : List Frame) : absPos (fresh c) = c.map (·.map wrap) :=
  absPos_of_pos _ rfl

theorem absPos_fresh_wrapped {c : List Frame} (h : ∀ f ∈ c, ∀ v ∈ f, wrap v = v) : absPos (fresh c) = c :=
  (absPos_fresh c).trans (map_wrap_of_wrapped_frames h)

theorem toPositions_abs (s : TState) : absPos (toPositions s) = absPos s :=
  (absPos_of_pos (toPositions s) rfl).trans (map_wrap_of_wrapped_frames (wrapped_absPos s))

/-- **C15 (hidden mode switch)**: switching the storage to displacements in place does not change
the positions the trajectory denotes. -/
theorem toDisplacements_abs (n : Nat) (s : TState) (h : WF n s) : absPos (toDisplacements s) = absPos s := by
  cases wf_iff.mp h with
  | disp hb hr => rfl
  | @pos f rest base hb hf hr hc =>
    rw [toDisplacements_pos hf, absPos, toPositions_disp hb, absPos_of_pos ⟨false, f :: rest, base⟩ rfl]
    simp only [List.map_cons, hc.map_wrap, cumsum_diffs_wrap rest hr hf hc]

theorem vadd_zero_right (a z : Frame) (hl : a.length = z.length) (hz : ∀ v ∈ z, v = 0) : vadd a z = a :=
  eq_replicate_zero hz ▸ vadd_zero a hl.le

theorem vadd_zero_left (z a : Frame) (hl : z.length = a.length) (hz : ∀ v ∈ z, v = 0) : vadd z a = a :=
  eq_replicate_zero hz ▸ zero_vadd a hl.ge

/-- the read-only queries, as far as their effect on the state goes -/
inductive ROp where
  | positions | displacements | cumulative | distances (G : Sym3)

def applyR (s : TState) : ROp → TState
  | .positions => (positions s).1
  | .displacements => (displacements s).1
  | .cumulative => (cumDisp s).1
  | .distances G => (distSq G s).1

/-- every query leaves the state as `toPositions` or as `toDisplacements` does -/
theorem applyR_step (n : Nat) (s : TState) (op : ROp) (h : WF n s) :
    absPos (applyR s op) = absPos s ∧ WF n (applyR s op) := by
  cases op
  · exact ⟨toPositions_abs s, toPositions_wf n s h⟩
  all_goals exact ⟨toDisplacements_abs n s h, toDisplacements_wf n s h⟩

/-- **C15 (any history)**: no finite sequence of read-only queries changes what the trajectory
denotes, and the state stays well formed. -/
theorem history_preserves_abs (n : Nat) (ops : List ROp) (s : TState) (h : WF n s) :
    absPos (ops.foldl applyR s) = absPos s ∧ WF n (ops.foldl applyR s) := by
  induction ops generalizing s with
  | nil => exact ⟨rfl, h⟩
  | cons op ops ih =>
    obtain ⟨h1, h2⟩ := applyR_step n s op h
    exact ⟨(ih _ h2).1.trans h1, (ih _ h2).2⟩

/-- … in particular `.positions` read after any such history equals `.positions` read before. -/
theorem reads_stable (n : Nat) (ops : List ROp) (s : TState) (h : WF n s) :
    (positions (ops.foldl applyR s)).2 = (positions s).2 :=
  (history_preserves_abs n ops s h).1

/-- forward walks in unit steps between naturals, the only ones `sliceIndices_full` / `_range` meet -/
theorem rangeList_nat : ∀ (fuel a b : Nat), b - a ≤ fuel →
    (rangeList a b 1 fuel).map Int.toNat = List.range' a (b - a)
  | 0, a, b, h => by rw [Nat.le_zero.mp h]; rfl
  | fuel + 1, a, b, h => by
    rw [rangeList]
    by_cases hab : a < b
    · rw [if_pos (by omega), List.map_cons, Int.toNat_natCast, ← Int.natCast_succ,
        rangeList_nat fuel (a + 1) b (by omega), show b - a = (b - (a + 1)) + 1 by omega]
      rfl
    · rw [if_neg (by omega), Nat.sub_eq_zero_of_le (Nat.le_of_not_lt hab)]
      rfl

theorem rangeList_mem {fuel : Nat} {a b st x : Int} (h : x ∈ rangeList a b st fuel) :
    (0 < st ∧ a ≤ x ∧ x < b) ∨ (st < 0 ∧ b < x ∧ x ≤ a) := by
  induction fuel generalizing a with
  | zero => nomatch h
  | succ fuel ih =>
    rw [rangeList] at h
    split at h
    · rcases List.mem_cons.mp h with rfl | h
      · omega
      · have := ih h
        omega
    · nomatch h

theorem adjust_bounds (x : Option Int) (len : Nat) (neg isStart : Bool) :
    (if neg then -1 else 0) ≤ adjust x len neg isStart ∧
      adjust x len neg isStart ≤ (if neg then (len : Int) - 1 else len) := by
  unfold adjust
  -- once the direction is fixed, every branch is an end of the window or an index tested to lie inside it;
  -- `omega` goes through the remaining `if`s itself
  cases neg <;> simp only [Bool.false_eq_true, if_false, if_true] <;> split <;> omega

theorem adjust_nat (a len : Nat) (isStart : Bool) (h : a ≤ len) :
    adjust (some (a : Int)) len false isStart = a := by
  simp only [adjust, Bool.false_eq_true, if_false]
  omega

theorem sliceIndices_step_none (start stop : Option Int) (len : Nat) :
    sliceIndices start stop none len
      = some ((rangeList (adjust start len false true) (adjust stop len false false) 1 (len + 1)).map Int.toNat) := rfl

/-- `traj[:]` selects every frame (the left side unfolds to the walk from `0` to `len`) -/
theorem sliceIndices_full (len : Nat) : sliceIndices none none none len = some (List.range len) :=
  congrArg some ((rangeList_nat (len + 1) 0 len (by omega)).trans List.range_eq_range'.symm)

/-- `traj[a:b]` selects the frames `a, …, b−1` (the form `split` uses) -/
theorem sliceIndices_range (a b len : Nat) (hab : a ≤ b) (hb : b ≤ len) :
    sliceIndices (some a) (some b) none len = some ((List.range (b - a)).map (· + a)) := by
  rw [sliceIndices_step_none, adjust_nat a len true (by omega), adjust_nat b len false hb,
    rangeList_nat _ a b (by omega), List.range'_eq_map_range]
  simp only [Nat.add_comm]

/-- selected indices are valid frame indices: they lie between the two ends (`rangeList_mem`), and the ends
are clamped (`adjust_bounds`) -/
theorem sliceIndices_lt (a b c : Option Int) (len : Nat) (idx : List Nat)
    (h : sliceIndices a b c len = some idx) : ∀ k ∈ idx, k < len := by
  unfold sliceIndices at h
  simp only at h
  split at h
  · nomatch h
  · obtain rfl := Option.some.inj h
    intro k hk
    obtain ⟨x, hx, rfl⟩ := List.mem_map.mp hk
    have h1 := rangeList_mem hx
    have h2 := adjust_bounds a len (decide (c.getD 1 < 0)) true
    have h3 := adjust_bounds b len (decide (c.getD 1 < 0)) false
    simp only [decide_eq_true_eq] at h2 h3
    omega

theorem mem_toV3s : ∀ (f : Frame) (p : V3), p ∈ toV3s f → p.x ∈ f ∧ p.y ∈ f ∧ p.z ∈ f
  | x :: y :: z :: r, p, h => by
    rcases List.mem_cons.mp h with rfl | h
    · simp
    · have := mem_toV3s r p h
      simp [this]
  | [], _, h | [_], _, h | [_, _], _, h => nomatch h

theorem mem_maskFrame (mask : List Bool) (f : Frame) (v : ℚ) (h : v ∈ maskFrame mask f) : v ∈ f := by
  obtain ⟨p, hp, hv⟩ := List.mem_flatMap.mp h
  obtain ⟨hx, hy, hz⟩ := mem_toV3s f p.1 (List.of_mem_zip hp).1
  split at hv
  · simp only [V3.toList, List.mem_cons, List.not_mem_nil, or_false] at hv
    rcases hv with rfl | rfl | rfl <;> assumption
  · nomatch hv

/-- **C15 (filter)**: the selection holds exactly the chosen atoms of every frame; the source still
denotes the same positions. -/
theorem filter_spec (mask : List Bool) (s : TState) :
    absPos (filterT mask s).2 = (absPos s).map (maskFrame mask) ∧ absPos (filterT mask s).1 = absPos s := by
  refine ⟨absPos_fresh_wrapped fun f hf v hv => ?_, toPositions_abs s⟩
  obtain ⟨g, hg, rfl⟩ := List.mem_map.mp hf
  exact wrapped_absPos s g hg v (mem_maskFrame mask g v hv)

/-- **C15 (slice)**: a slice holds exactly the selected frames of the source, in order. -/
theorem slice_spec (a b c : Option Int) (s s' nw : TState) (h : sliceT a b c s = (s', some nw)) :
    ∃ idx, sliceIndices a b c (absPos s).length = some idx ∧ idx ≠ [] ∧
      absPos nw = idx.map (fun k => (absPos s).getD k []) ∧ absPos s' = absPos s := by
  unfold sliceT at h
  dsimp only at h
  split at h
  · cases h
  · rename_i idx hi
    split at h <;> cases h
    rename_i he
    refine ⟨idx, hi, fun hn => he (hn ▸ rfl), absPos_fresh_wrapped fun f hf v hv => ?_, toPositions_abs s⟩
    obtain ⟨k, hk, rfl⟩ := List.mem_map.mp hf
    exact wrapped_absPos s _ (getD_mem _ _ k (sliceIndices_lt a b c _ idx hi k hk)) v hv

/-- **C15 (extend)**: the extended trajectory denotes its old frames followed by the other's frames. -/
theorem extend_spec (s o : TState) :
    absPos (extendT s o).1 = absPos s ++ absPos o ∧ absPos (extendT s o).2 = absPos o :=
  ⟨(absPos_of_pos _ rfl).trans
      (map_wrap_of_wrapped_frames (List.forall_mem_append.mpr ⟨wrapped_absPos s, wrapped_absPos o⟩)),
    toPositions_abs o⟩

/-- read displacements, then filter and slice backwards: the derived objects come from a displacement-mode source -/
example :
    let s0 := fresh [[7/8, 1/4, 0, 1/2, 1/2, 1/2], [1/8, 1/2, 0, 1/2, 1/2, 1/4], [3/8, 3/4, 0, 1/2, 1/2, 0]]
    let s1 := (displacements s0).1
    WF 6 s0 ∧ s1.disp = true ∧
    absPos (filterT [false, true] s1).2 = [[1/2, 1/2, 1/2], [1/2, 1/2, 1/4], [1/2, 1/2, 0]] ∧
    (sliceT none none (some (-2)) s1).2.map absPos = some [[3/8, 3/4, 0, 1/2, 1/2, 0], [7/8, 1/4, 0, 1/2, 1/2, 1/2]] := by
  exact ⟨fresh_wf _ 6 (by unfold Rect; decide) (List.cons_ne_nil _ _), by decide +kernel⟩

end G.C15
