import GModel.Labels
import GProofs.C05
import GProofs.Lists
import Mathlib.Algebra.Order.Field.Rat
import Mathlib.Algebra.BigOperators.Group.List.Basic
/-!
# C05 (continued) — the per-label counter and the rates are consistent aggregations of the jump matrix

`Jumps.counter()` groups the jump rows by the labels of origin and destination site; `Jumps.rates()` averages the per-part
counters.
-/
namespace G.C05Lab
open G G.Counts G.Labels G.C05

theorem labelPair_cast (labels : List String) (i j : Nat) :
    labelPair labels ((i : Int), (j : Int)) = (labels.getD i "", labels.getD j "") := by
  simp [labelPair, labelOf]

/-- entry of the label counter = the sum of the matrix entries over all site pairs carrying these labels.
`hn` is not needed, `getD` answering "" outside the table. -/
theorem counterGet_eq_matrix (labels : List String) (rows : List Pair) (n : Nat) (hn : labels.length = n)
    (hv : Valid rows n) (a b : String) :
    counterGet labels rows a b =
      gridSum n (fun i j => if labels.getD i "" = a ∧ labels.getD j "" = b then (matrixSpec rows n).get i j else 0) := by
  -- count the rows carrying these labels by (origin, destination)
  rw [counterGet, ← gridSum_countPair n _ fun p hp => hv p (List.mem_filter.1 hp).1]
  apply gridSum_congr
  intro i j hi hj
  rw [countPair, List.filter_filter, matrixSpec_get rows n i j hi hj, countPair]
  have hl : labelPair labels ((i : Int), (j : Int)) = (a, b) ↔ labels.getD i "" = a ∧ labels.getD j "" = b := by
    rw [labelPair_cast, Prod.mk.injEq]
  split
  · next h => exact congrArg List.length (List.filter_congr fun p _ => by
      by_cases hp : p = ((i : Int), (j : Int)) <;> simp [hp, hl.2 h])
  · next h =>
    rw [List.length_eq_zero_iff, List.filter_eq_nil_iff]
    intro p _ hp
    simp only [Bool.and_eq_true, decide_eq_true_eq] at hp
    exact h (hl.1 (hp.1 ▸ hp.2))

theorem keys_nodup (labels : List String) (rows : List Pair) : (keys labels rows).Nodup :=
  Lists.nodup_eraseDups _

theorem mem_keys (labels : List String) (rows : List Pair) (k : String × String) :
    k ∈ keys labels rows ↔ ∃ p ∈ rows, labelPair labels p = k := by
  unfold keys
  rw [List.mem_eraseDups, List.mem_map]

/-- the label counter conserves the number of jumps -/
theorem counter_total (labels : List String) (rows : List Pair) :
    ((counter labels rows).map (·.2)).sum = rows.length := by
  rw [← sum_group_length (labelPair labels) (keys_nodup labels rows) rows
    fun p hp => (mem_keys labels rows _).2 ⟨p, hp, rfl⟩, counter, List.map_map]
  rfl

theorem counter_pos (labels : List String) (rows : List Pair) (e : (String × String) × Nat)
    (he : e ∈ counter labels rows) : 0 < e.2 := by
  obtain ⟨k, hk, rfl⟩ := List.mem_map.1 he
  obtain ⟨p, hp, hpk⟩ := (mem_keys labels rows k).1 hk
  exact List.length_pos_of_mem (List.mem_filter.2 ⟨hp, by simp [hpk]⟩)

theorem sum_map_div {ι : Type} (l : List ι) (f : ι → ℚ) (d : ℚ) :
    (l.map (fun x => f x / d)).sum = (l.map f).sum / d := by
  induction l with
  | nil => simp
  | cons x xs ih => simp only [List.map_cons, List.sum_cons, ih, add_div]

theorem natCast_sum (l : List Nat) : ((l.sum : Nat) : ℚ) = (l.map (fun (c : Nat) => (c : ℚ))).sum :=
  map_list_sum (Nat.castAddMonoidHom ℚ) l

/-- rate × (number of floating atoms × total time) = total number of jumps in the parts -/
theorem rate_times_time (counts : List Nat) (nFloat : Nat) (partTime : ℚ) (hc : counts ≠ []) (hn : 0 < nFloat)
    (ht : 0 < partTime) :
    rateMean counts nFloat partTime * ((nFloat : ℚ) * (partTime * counts.length)) = (counts.sum : ℚ) := by
  have h : (nFloat : ℚ) * (partTime * counts.length) ≠ 0 :=
    mul_ne_zero (Nat.cast_ne_zero.2 hn.ne') (mul_ne_zero ht.ne' (Nat.cast_ne_zero.2 (List.length_pos_iff.2 hc).ne'))
  rw [rateMean, sum_map_div, ← natCast_sum, div_div, mul_assoc, div_mul_cancel₀ _ h]

example : counter ["A", "A", "B"] [(0, 1), (1, 2), (0, 2), (2, 0), (1, 0)] =
    [(("A", "A"), 2), (("A", "B"), 2), (("B", "A"), 1)] := by decide

end G.C05Lab
