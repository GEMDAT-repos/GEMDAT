import GModel.Traj
import GProofs.Frame
import Mathlib.Tactic.Linarith
/-!
# C01 — periodic positions / displacements are exact, wrapped, lattice-shift invariant
-/
namespace G.C01
open G G.Traj

theorem diffs_getD : ∀ (rest : List Frame) (p : Frame) (t : Nat), t < rest.length →
    (diffs p rest).getD t [] = (vsub (rest.getD t []) ((p :: rest).getD t [])).map minImg1
  | _ :: _, _, 0, _ => rfl
  | g :: rest, _, t + 1, h => diffs_getD rest g t (Nat.lt_of_succ_lt_succ h)

theorem getD_mem {α : Type} (c : List α) (d : α) (t : Nat) (ht : t < c.length) : c.getD t d ∈ c :=
  List.getElem_eq_getD (h := ht) d ▸ List.getElem_mem ht

theorem getD_map_vsub (φ : ℚ → ℚ) (a b : Frame) (j : Nat) (ha : j < a.length) (hb : j < b.length) :
    ((vsub a b).map φ).getD j 0 = φ (a.getD j 0 - b.getD j 0) := by
  simp [vsub, List.getD_eq_getElem?_getD, List.getElem?_zipWith, List.getElem?_eq_getElem ha,
    List.getElem?_eq_getElem hb]

/-- **C01 (unit cell)**: every reported position lies in [0, 1), in whatever state the trajectory is. -/
theorem positions_in_unit (s : TState) : ∀ f ∈ (positions s).2, ∀ v ∈ f, 0 ≤ v ∧ v < 1 := by
  intro f hf v hv
  simp only [positions, toPositions, List.mem_map] at hf
  obtain ⟨g, _, rfl⟩ := hf
  obtain ⟨u, _, rfl⟩ := List.mem_map.mp hv
  exact wrap_range u

/-- **C01 (exact)**: the positions of a freshly built trajectory are its input coordinates modulo 1. -/
theorem positions_fresh (c : List Frame) : (positions (fresh c)).2 = c.map (·.map wrap) := by
  simp [positions, toPositions, fresh]

theorem displacements_fresh (c : List Frame) : (displacements (fresh c)).2 = toDispCoords c := by
  simp [displacements, toDisplacements, fresh]

/-- **C01 (minimum-image steps)**: every displacement component of a fresh trajectory after frame 0 has absolute
size ≤ ½ and differs from the consecutive difference of the input by an integer (frame 0 is zero:
`displacements_fresh_zero`). -/
theorem displacements_fresh_spec (c : List Frame) (n : Nat) (hr : Rect c n) (t j : Nat)
    (ht : t + 1 < c.length) (hj : j < n) :
    let d := ((displacements (fresh c)).2.getD (t + 1) []).getD j 0
    |d| ≤ 1 / 2 ∧ ∃ k : ℤ, d = (c.getD (t + 1) []).getD j 0 - (c.getD t []).getD j 0 + k := by
  obtain _ | ⟨f, rest⟩ := c
  · simp at ht
  have h1 : j < (rest.getD t []).length := (hr _ (getD_mem (f :: rest) [] (t + 1) ht)).symm ▸ hj
  have h0 : j < ((f :: rest).getD t []).length := (hr _ (getD_mem _ [] t (by omega))).symm ▸ hj
  rw [displacements_fresh, toDispCoords, List.getD_cons_succ, diffs_getD rest f t (by simpa using ht),
    getD_map_vsub _ _ _ j h1 h0]
  exact ⟨abs_minImg1_le_half _, minImg1_congr _⟩

theorem displacements_fresh_zero (c : List Frame) (f : Frame) (rest : List Frame) (hc : c = f :: rest) :
    (displacements (fresh c)).2.head? = some (f.map (fun _ => (0 : ℚ))) := by
  subst hc
  rfl

/-- positions → displacements → positions: running sums of the minimum-image steps, started from
anything congruent to the previous frame, reproduce every later frame modulo 1 -/
theorem cumsum_diffs_wrap {n : Nat} (rest : List Frame) {p A : Frame} (hr : Rect rest n) (hp : p.length = n)
    (h : Cong A p) : (cumsumFrom A (diffs p rest)).map (·.map wrap) = rest.map (·.map wrap) := by
  induction rest generalizing p A with
  | nil => rfl
  | cons g rest ih =>
    obtain ⟨hg, hr⟩ := rect_cons.mp hr
    have hs := h.step (hg.trans hp.symm)
    simp only [diffs, cumsumFrom, List.map_cons]
    rw [hs.map_wrap, ih hr hg hs]

theorem cumsum_zero_cons (base : Frame) (ds : List Frame) :
    (cumsum (List.replicate base.length 0 :: ds)).map (vadd base) = base :: cumsumFrom base ds := by
  have e : vadd (List.replicate base.length 0) (List.replicate base.length 0) = List.replicate base.length 0 :=
    vadd_zero _ (by simp)
  simp only [cumsum, cumsumFrom, zerosLike_eq, List.length_replicate, List.map_cons, map_vadd_cumsumFrom, e,
    vadd_zero base (le_refl _)]

/-- **C01 (running sum)**: switching a fresh trajectory to displacements and back — first frame plus
the running sum of the minimum-image steps, wrapped — reproduces every frame modulo 1. -/
theorem running_sum_reproduces (c : List Frame) (n : Nat) (hr : Rect c n) :
    (positions (displacements (fresh c)).1).2 = c.map (·.map wrap) := by
  cases c with
  | nil => rfl
  | cons f rest =>
    obtain ⟨hf, hr⟩ := rect_cons.mp hr
    show ((cumsum (toDispCoords (f :: rest))).map (vadd f)).map (·.map wrap) = _
    rw [toDispCoords, zerosLike_eq, cumsum_zero_cons, List.map_cons, List.map_cons,
      cumsum_diffs_wrap rest hr hf (Cong.refl f)]

/-- `c'` is `c` with every coordinate of every frame shifted by a whole number of cells -/
def ShiftOf (c c' : List Frame) : Prop :=
  c.length = c'.length ∧ ∀ t, (c.getD t []).length = (c'.getD t []).length ∧
    ∀ j, ∃ k : ℤ, (c'.getD t []).getD j 0 = (c.getD t []).getD j 0 + k

/-- no consecutive raw difference of `c` is a half-integer -/
def NoTieTraj (c : List Frame) : Prop :=
  ∀ t j, NoTie ((c.getD (t + 1) []).getD j 0 - (c.getD t []).getD j 0)

theorem ShiftOf.forall₂ : ∀ {c c' : List Frame}, ShiftOf c c' → List.Forall₂ Cong c' c
  | [], [], _ => .nil
  | _ :: _, _ :: _, h =>
    .cons (cong_of_getD (h.2 0).1.symm (h.2 0).2) (ShiftOf.forall₂ ⟨Nat.succ.inj h.1, fun t => h.2 (t + 1)⟩)

theorem diffs_shift {rest rest' : List Frame} (hs : List.Forall₂ Cong rest' rest) :
    ∀ {p p' : Frame}, Cong p' p → NoTieTraj (p :: rest) → diffs p' rest' = diffs p rest := by
  induction hs with
  | nil => exact fun _ _ => rfl
  | cons hg _ ih =>
    intro p p' hp hn
    simp only [diffs]
    rw [map_minImg1_vsub_shift hg hp (hn 0), ih hg fun t => hn (t + 1)]

theorem cumDisp_fresh (c : List Frame) : (cumDisp (fresh c)).2 = cumsum (toDispCoords c) := by
  simp [cumDisp, toDisplacements, fresh]

theorem distSq_fresh (G : Sym3) (c : List Frame) :
    (distSq G (fresh c)).2 = (cumsum (toDispCoords c)).map (fun f => (toV3s f).map G.Q) := by
  simp [distSq, cumDisp, toDisplacements, fresh]

theorem map_wrap_shift {c c' : List Frame} (hs : List.Forall₂ Cong c' c) :
    c'.map (·.map wrap) = c.map (·.map wrap) := by
  induction hs with
  | nil => rfl
  | cons hf _ ih => rw [List.map_cons, List.map_cons, hf.map_wrap, ih]

theorem ShiftOf.invariant {c c' : List Frame} (hs : ShiftOf c c') (hn : NoTieTraj c) :
    toDispCoords c' = toDispCoords c ∧ c'.map (·.map wrap) = c.map (·.map wrap) := by
  have hF := hs.forall₂
  refine ⟨?_, map_wrap_shift hF⟩
  cases hF with
  | nil => rfl
  | cons hf hF => rw [toDispCoords, toDispCoords, diffs_shift hF hf hn, zerosLike_eq, zerosLike_eq, hf.length_eq]

/-- **C01 (shift invariance)**: shifting any coordinate in any frame by whole lattice vectors leaves
the displacements — hence cumulative displacements, distances and everything derived from them —
unchanged.  `n`, `hr` are not needed: ragged frame lists are shift-invariant too, `ShiftOf.invariant`. -/
theorem shift_invariance (c c' : List Frame) (n : Nat) (hr : Rect c n) (hs : ShiftOf c c') (hn : NoTieTraj c) :
    (displacements (fresh c')).2 = (displacements (fresh c)).2 ∧
    (cumDisp (fresh c')).2 = (cumDisp (fresh c)).2 ∧
    (∀ G : Sym3, (distSq G (fresh c')).2 = (distSq G (fresh c)).2) ∧
    (positions (fresh c')).2 = (positions (fresh c)).2 := by
  simp only [displacements_fresh, cumDisp_fresh, distSq_fresh, positions_fresh, hs.invariant hn, and_self,
    implies_true]

/-- for ANY rounding operator that is monotone and exact on 0 and 1 (IEEE round-to-nearest is
one), the computed `r + 1` of a coordinate in (−1, 0) stays inside [0, 1]; after mapping 1 to 0
(the repair of defect D1) it lies in [0, 1). -/
theorem wrap_fl_range (fl : ℚ → ℚ) (hmono : ∀ a b, a ≤ b → fl a ≤ fl b) (h0 : fl 0 = 0) (h1 : fl 1 = 1)
    (r : ℚ) (hr0 : -1 < r) (hr1 : r < 0) :
    0 ≤ fl (r + 1) ∧ fl (r + 1) ≤ 1 ∧
    (let p := fl (r + 1); let q := if p ≥ 1 then 0 else p; 0 ≤ q ∧ q < 1) := by
  have hlo : 0 ≤ fl (r + 1) := h0 ▸ hmono 0 (r + 1) (by linarith)
  have hhi : fl (r + 1) ≤ 1 := (hmono (r + 1) 1 (by linarith)).trans_eq h1
  refine ⟨hlo, hhi, ?_⟩
  dsimp only
  split
  · exact ⟨le_rfl, one_pos⟩
  · exact ⟨hlo, not_le.mp ‹_›⟩

/-- binary64 witness (kernel evaluation of `Float`): −1e-17 + 1 rounds to exactly 1.0 -/
theorem float_wrap_hits_one : ((-1e-17 : Float) + 1.0 == 1.0) = true := by
  decide +kernel

/-- a two-frame trajectory that crosses a face, and a copy shifted by whole cells -/
example :
    (displacements (fresh [[7/8, 1/4], [1/8, 1/2]])).2 = [[0, 0], [1/4, 1/4]] ∧
    (displacements (fresh [[7/8 + 2, 1/4 - 1], [1/8 - 3, 1/2]])).2 = [[0, 0], [1/4, 1/4]] ∧
    (positions (displacements (fresh [[7/8 + 2, 1/4 - 1], [1/8 - 3, 1/2]])).1).2 = [[7/8, 1/4], [1/8, 1/2]] := by
  decide +kernel

end G.C01
