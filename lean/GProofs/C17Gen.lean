import GGen.FormulasC17
import GModel.Shape
import GProofs.C17
import Mathlib.Tactic.Linarith
import Mathlib.Tactic.Ring
/-!
# C17 — obligations on the formula slice regenerated from /repo's source (GGen/FormulasC17.lean):
selection and re-imaging in `ShapeAnalyzer.find_equivalent_positions`
-/
namespace G.C17Gen
open G

theorem reimage_eq (c s : ℚ) : Gen.reimage c s = c - (rne (c - s) : ℚ) := by
  unfold Gen.reimage
  ring

/-- so `C17.reimage_is_short_image` applies to the generated re-imaging -/
theorem reimage_eq_model (sym p : V3) :
    (⟨Gen.reimage p.x sym.x, Gen.reimage p.y sym.y, Gen.reimage p.z sym.z⟩ : V3) = Shape.reimage sym p := by
  unfold Shape.reimage
  rw [reimage_eq, reimage_eq, reimage_eq]

theorem reimage_congr (c s : ℚ) : ∃ k : ℤ, Gen.reimage c s = c + k :=
  ⟨-rne (c - s), by rw [reimage_eq]; push_cast; ring⟩

theorem reimage_near (c s : ℚ) : |Gen.reimage c s - s| ≤ 1 / 2 := by
  have h := C01.abs_sub_rne_le_half (c - s)
  have e : Gen.reimage c s - s = c - s - (rne (c - s) : ℚ) := by rw [reimage_eq]; ring
  rw [e]
  exact h

theorem reimage_fixed (c s : ℚ) (h : |c - s| < 1 / 2) : Gen.reimage c s = c := by
  have hr : rne (c - s) = 0 := C01.rne_eq_of_abs_sub_lt (by rwa [Int.cast_zero, sub_zero])
  rw [reimage_eq, hr, Int.cast_zero, sub_zero]

theorem selected_iff (d r : ℚ) : Gen.selected d r = true ↔ d < r := by
  unfold Gen.selected
  exact decide_eq_true_iff.trans ⟨fun h => by linarith, fun h => by linarith⟩

end G.C17Gen
