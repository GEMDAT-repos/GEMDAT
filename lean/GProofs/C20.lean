import GModel.Memo
/-!
# C20 — memoised results are transparent and never leak between objects

The invariant `CacheOK` says that every entry stores `f` of *its own* object and that a reference object belongs to one
object only; a hit is found through a reference object of the caller, so it comes from an entry of the caller
(`hit_same_object`) and returns `f oid args` (`call_transparent`).  `runOps_induct` carries what every `step` preserves
through a history of creations, destructions, address reuse and evictions: `memo_transparent`, `cache_bounded` and
`no_leak` are instances.
-/
namespace G.C20
open G.Memo

variable (f : Nat → Nat → Nat) (holds : Nat → Nat → List Nat)

/-- the third clause (reference objects in the cache are numbered below the counter) is what makes a fresh reference
object differ from every one in the cache -/
def CacheOK (s : MState) : Prop :=
  (∀ e ∈ s.cache, e.val = f e.key.oid e.args ∧ e.holds = holds e.key.oid e.args) ∧
  (∀ e1 ∈ s.cache, ∀ e2 ∈ s.cache, e1.key.rid = e2.key.rid → e1.key.oid = e2.key.oid) ∧
  (∀ e ∈ s.cache, e.key.rid < s.nextRid)

theorem init_ok (cap : Nat) : CacheOK f holds (MState.init cap) := by
  simp [CacheOK, MState.init]

theorem refFor_spec {s : MState} (hok : CacheOK f holds s) (oid addr : Nat) :
    (refFor s oid addr).1.oid = oid ∧
    (∀ e ∈ s.cache, e.key.rid = (refFor s oid addr).1.rid → e.key.oid = oid) ∧
    s.nextRid ≤ (refFor s oid addr).2 ∧
    (refFor s oid addr).1.rid < (refFor s oid addr).2 := by
  obtain ⟨_, h2, h3⟩ := hok
  unfold refFor
  split
  next e0 he0 =>
    have hm := List.mem_of_find?_eq_some he0
    have hp : e0.key.oid = oid := by simpa using List.find?_some he0
    exact ⟨hp, fun e he hr => hp ▸ h2 e he e0 hm hr, Nat.le_refl _, h3 _ hm⟩
  next => exact ⟨rfl, fun e he hr => absurd hr (Nat.ne_of_lt (h3 e he)), Nat.le_succ _, Nat.lt_succ_self _⟩

theorem call_spec {s s' : MState} {oid args v : Nat} {hit : Bool}
    (h : call f holds s oid args = some (s', v, hit)) :
    ∃ addr, addrOf s oid = some addr ∧
      ((∃ e, s.cache.find? (keyMatch s (refFor s oid addr).1 args) = some e ∧
          s' = { s with nextRid := (refFor s oid addr).2,
                        cache := e :: s.cache.filter (fun x => !(x == e)) } ∧
          v = e.val ∧ hit = true) ∨
       (s.cache.find? (keyMatch s (refFor s oid addr).1 args) = none ∧
          s' = { s with nextRid := (refFor s oid addr).2,
                        cache := ((⟨(refFor s oid addr).1, args, f oid args, holds oid args⟩ : Entry)
                                  :: s.cache).take s.cap } ∧
          v = f oid args ∧ hit = false)) := by
  unfold call at h
  split at h
  next => cases h
  next addr ha =>
    refine ⟨addr, ha, ?_⟩
    dsimp only at h
    split at h
    next e he => cases h; exact .inl ⟨e, he, rfl, rfl, rfl⟩
    next he => cases h; exact .inr ⟨he, rfl, rfl, rfl⟩

theorem hit_same_object (s s' : MState) (oid args v : Nat) (hok : CacheOK f holds s)
    (h : call f holds s oid args = some (s', v, true)) :
    ∃ e ∈ s.cache, e.key.oid = oid ∧ e.args = args ∧ v = e.val := by
  obtain ⟨addr, _, ⟨e, he, _, hv, _⟩ | ⟨_, _, _, hf⟩⟩ := call_spec f holds h
  · obtain ⟨r1, r2, _, _⟩ := refFor_spec f holds hok oid addr
    have hm := List.mem_of_find?_eq_some he
    have hp := List.find?_some he
    simp only [keyMatch, refEq, Bool.and_eq_true, Bool.or_eq_true, beq_iff_eq] at hp
    -- the key is the reference object itself, or an equal one: then of the same, live, object
    exact ⟨e, hm, hp.2.elim (r2 e hm) fun hr => hr.2.trans r1, hp.1.1, hv⟩
  · cases hf

/-- **C20 (transparent, one call)**: whatever the cache contains, a call returns the value an
uncached recomputation on the same object returns. -/
theorem call_transparent {s s' : MState} {oid args v : Nat} {hit : Bool} (hok : CacheOK f holds s)
    (h : call f holds s oid args = some (s', v, hit)) : v = f oid args := by
  cases hit
  · obtain ⟨_, _, ⟨_, _, _, _, hf⟩ | ⟨_, _, hv, _⟩⟩ := call_spec f holds h
    · cases hf
    · exact hv
  · obtain ⟨e, hm, ho, ha, hv⟩ := hit_same_object f holds s s' oid args v hok h
    rw [hv, (hok.1 e hm).1, ho, ha]

theorem CacheOK.mono {s s' : MState} (hok : CacheOK f holds s) (hc : ∀ x ∈ s'.cache, x ∈ s.cache)
    (hn : s.nextRid ≤ s'.nextRid) : CacheOK f holds s' :=
  ⟨fun e he => hok.1 e (hc e he), fun a ha b hb => hok.2.1 a (hc a ha) b (hc b hb),
    fun e he => Nat.lt_of_lt_of_le (hok.2.2 e (hc e he)) hn⟩

theorem CacheOK.cons {s : MState} (hok : CacheOK f holds s) (oid addr args : Nat) :
    CacheOK f holds { s with nextRid := (refFor s oid addr).2,
                             cache := ⟨(refFor s oid addr).1, args, f oid args, holds oid args⟩ :: s.cache } := by
  obtain ⟨r1, r2, r3, r4⟩ := refFor_spec f holds hok oid addr
  obtain ⟨h1, h2, h3⟩ := hok
  refine ⟨List.forall_mem_cons.2 ⟨by simp [r1], h1⟩, fun x hx y hy hr => ?_,
    List.forall_mem_cons.2 ⟨r4, fun x hx => Nat.lt_of_lt_of_le (h3 x hx) r3⟩⟩
  rcases List.mem_cons.1 hx with rfl | hx <;> rcases List.mem_cons.1 hy with rfl | hy
  · rfl
  · exact r1.trans (r2 y hy hr.symm).symm
  · exact (r2 x hx hr).trans r1.symm
  · exact h2 x hx y hy hr

theorem call_ok {s s' : MState} {oid args v : Nat} {hit : Bool} (hok : CacheOK f holds s)
    (h : call f holds s oid args = some (s', v, hit)) : CacheOK f holds s' := by
  obtain ⟨addr, _, ⟨e, he, rfl, _, _⟩ | ⟨_, rfl, _, _⟩⟩ := call_spec f holds h
  -- a hit reorders the entries
  · refine hok.mono f holds (fun x hx => ?_) (refFor_spec f holds hok oid addr).2.2.1
    rcases List.mem_cons.1 hx with rfl | hx
    · exact List.mem_of_find?_eq_some he
    · exact (List.mem_filter.1 hx).1
  -- a miss enters the result, then evicts
  · exact (hok.cons f holds oid addr args).mono f holds (fun x => List.mem_of_mem_take) (Nat.le_refl _)

/-- what a correct answer to an operation is -/
def okOut (op : Op) (o : Option (Nat × Bool)) : Prop :=
  match op, o with
  | .call oid args, some (v, _) => v = f oid args
  | _, _ => True

theorem step_ok (s : MState) (op : Op) (hok : CacheOK f holds s) :
    CacheOK f holds (step f holds s op).1 ∧ okOut f op (step f holds s op).2 := by
  cases op with
  -- `new` and `drop` change `held` only, which `CacheOK` does not read
  | new oid addr => exact ⟨hok, trivial⟩
  | drop oid => exact ⟨hok, trivial⟩
  | call oid args =>
    simp only [step]
    split
    next s' v hit hc => exact ⟨call_ok f holds hok hc, call_transparent f holds hok hc⟩
    next => exact ⟨hok, trivial⟩

theorem runOps_cons (s : MState) (op : Op) (ops : List Op) :
    runOps f holds s (op :: ops) =
      ((runOps f holds (step f holds s op).1 ops).1,
       (step f holds s op).2 :: (runOps f holds (step f holds s op).1 ops).2) := rfl

theorem runOps_induct (I : MState → Prop) (Q : Op → Option (Nat × Bool) → Prop)
    (hstep : ∀ s op, I s → I (step f holds s op).1 ∧ Q op (step f holds s op).2) (ops : List Op) (s : MState)
    (h : I s) : I (runOps f holds s ops).1 ∧ (runOps f holds s ops).2.length = ops.length ∧
      ∀ p ∈ List.zip ops (runOps f holds s ops).2, Q p.1 p.2 := by
  induction ops generalizing s with
  | nil => exact ⟨h, rfl, nofun⟩
  | cons op ops ih =>
    obtain ⟨hI, hQ⟩ := hstep s op h
    obtain ⟨h1, h2, h3⟩ := ih _ hI
    exact ⟨h1, congrArg (· + 1) h2, List.forall_mem_cons.2 ⟨hQ, h3⟩⟩

/-- **C20 (transparent, every history)**: for every interleaving of creations, calls with any
arguments and drops — including more live objects than the cache size and objects created at
the address of a destroyed one — every call returns the uncached value of the object called. -/
theorem memo_transparent (cap : Nat) (ops : List Op) :
    (runOps f holds (MState.init cap) ops).2.length = ops.length ∧
    ∀ p ∈ List.zip ops (runOps f holds (MState.init cap) ops).2, okOut f p.1 p.2 :=
  (runOps_induct f holds (CacheOK f holds) (okOut f) (step_ok f holds) ops _ (init_ok f holds cap)).2

theorem step_bounded {cap : Nat} (s : MState) (op : Op) (hb : s.cache.length ≤ cap ∧ s.cap = cap) :
    (step f holds s op).1.cache.length ≤ cap ∧ (step f holds s op).1.cap = cap := by
  cases op with
  | new oid addr => exact hb
  | drop oid => exact hb
  | call oid args =>
    simp only [step]
    split
    next s' v hit hc =>
      obtain ⟨_, _, ⟨e, he, rfl, _, _⟩ | ⟨_, rfl, _, _⟩⟩ := call_spec f holds hc
      -- a hit takes its entry out before it puts it in front
      · have hlt : (s.cache.filter fun x => !(x == e)).length < s.cache.length :=
          List.length_filter_lt_length_iff_exists.2 ⟨e, List.mem_of_find?_eq_some he, by simp⟩
        exact ⟨Nat.le_trans hlt hb.1, hb.2⟩
      · exact ⟨hb.2 ▸ List.length_take_le .., hb.2⟩
    next => exact hb

theorem cache_bounded (cap : Nat) (ops : List Op) :
    (runOps f holds (MState.init cap) ops).1.cache.length ≤ cap :=
  (runOps_induct f holds (fun s => s.cache.length ≤ cap ∧ s.cap = cap) (fun _ _ => True)
    (fun s op h => ⟨step_bounded f holds s op h, trivial⟩) ops _ ⟨Nat.zero_le _, rfl⟩).1.1

/-- **C20 (no leak)**: if cached values hold no reference to any object (`hh`), an object the user
no longer holds is dead after any history — cache entries do not keep it alive. -/
theorem no_leak (hh : ∀ o a, holds o a = []) (cap : Nat) (ops : List Op) (oid : Nat)
    (hd : ((runOps f holds (MState.init cap) ops).1.held.any (fun p => p.1 == oid)) = false) :
    alive (runOps f holds (MState.init cap) ops).1 oid = false := by
  have hok := (runOps_induct f holds (CacheOK f holds) (okOut f) (step_ok f holds) ops _ (init_ok f holds cap)).1
  unfold alive
  rw [hd]
  simp only [Bool.false_or, List.any_eq_false]
  intro e he
  rw [(hok.1 e he).2, hh]
  simp

/-- defect D14 (known finding): a cached value that stores its creator keeps it alive -/
theorem leak_witness :
    alive (runOps (fun o a => o + a) (fun o _ => [o]) (MState.init 128)
      [.new 0 100, .call 0 1, .drop 0]).1 0 = true := by
  decide

/-- an object created at the address of a destroyed one gets a miss and its own value -/
example :
    (runOps (fun o a => 10 * o + a) (fun _ _ => []) (MState.init 2)
      [.new 0 100, .call 0 1, .call 0 1, .drop 0, .new 1 100, .call 1 1]).2
      = [none, some (1, false), some (1, true), none, none, some (11, false)] := by
  decide

end G.C20
