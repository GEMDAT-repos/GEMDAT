import GModel.Pipeline
import GProofs.C02
import GProofs.C03
import GProofs.C07
import GProofs.Machine
/-!
# C07 (end to end) — the per-atom analysis chain depends only on geometry

`assign` sees cell, sites and atom only through the list of sphere tests (`C02.assign_congr`); the event scan and
the jump machine commute with an injective renaming of the site indices that keeps "no site"
(`eventsSpec_relabel`; `step_move` of `Machine`).  Every transformation reduces to one of the two: a rotation, a
common translation or whole-cell shifts of the atom leave the sphere tests as they are; another order of the sites
renames the states by `siteMap σ`.
-/
namespace G.C07Pipe
open G G.Geometry G.Sites G.Events G.Jumps G.Pipeline

/-- **C07 (orientation, end to end)**: rotating the lattice vectors changes nothing. -/
theorem run_rot (m : M3) (R : C07.Rot) (hR : C07.Orthogonal R) (frac : ℚ) (mr : Int)
    (sites : List (V3 × ℚ)) (xs : List V3) :
    Pipeline.run (C07.M3.mulRot m R).metric frac mr sites xs = Pipeline.run m.metric frac mr sites xs := by
  rw [C07.metric_rot m R hR]

def translateSites (t : V3) (sites : List (V3 × ℚ)) : List (V3 × ℚ) := sites.map (fun p => (p.1 + t, p.2))

theorem assign_translate (G : Sym3) (frac : ℚ) (t x : V3) (sites : List (V3 × ℚ)) :
    assign G frac (translateSites t sites) (x + t) = assign G frac sites x := by
  refine C02.assign_congr ?_
  rw [translateSites, List.map_map]
  exact List.map_congr_left (fun p _ => C07.within_translate G _ p.1 x t)

theorem statesOf_translate (G : Sym3) (frac : ℚ) (t : V3) (sites : List (V3 × ℚ)) (xs : List V3) :
    statesOf G frac (translateSites t sites) (xs.map (· + t)) = statesOf G frac sites xs := by
  simp only [statesOf, List.map_map]
  exact List.map_congr_left fun x _ => assign_translate G frac t x sites

/-- **C07 (origin, end to end)**: translating atoms and sites together changes nothing. -/
theorem run_translate (G : Sym3) (frac : ℚ) (mr : Int) (t : V3) (sites : List (V3 × ℚ)) (xs : List V3) :
    Pipeline.run G frac mr (translateSites t sites) (xs.map (· + t)) = Pipeline.run G frac mr sites xs := by
  simp only [Pipeline.run, statesOf_translate]

/-- no component of `x − s` sits exactly half a cell away (NoTie) for any listed site -/
def NoTieTo (sites : List (V3 × ℚ)) (x : V3) : Prop :=
  ∀ p ∈ sites, ∀ k : ℤ, (x - p.1).x ≠ k + 1/2 ∧ (x - p.1).y ≠ k + 1/2 ∧ (x - p.1).z ≠ k + 1/2

theorem within_shift_atom (G : Sym3) (r : ℚ) (s x : V3) (n1 n2 n3 : ℤ)
    (hn : ∀ k : ℤ, (x - s).x ≠ k + 1/2 ∧ (x - s).y ≠ k + 1/2 ∧ (x - s).z ≠ k + 1/2) :
    within G r s (shiftBy x n1 n2 n3) = within G r s x := by
  unfold within pbcDistSq minImageSq
  rw [shiftBy_sub, minImageSqCert_shift G (x - s) n1 n2 n3 hn]

theorem assign_shift_atom (G : Sym3) (frac : ℚ) (x : V3) (n1 n2 n3 : ℤ) (sites : List (V3 × ℚ))
    (hn : NoTieTo sites x) :
    assign G frac sites (shiftBy x n1 n2 n3) = assign G frac sites x :=
  C02.assign_congr (List.map_congr_left (fun p hp => within_shift_atom G _ p.1 x n1 n2 n3 (hn p hp)))

/-- **C07 / C01 (whole-cell shifts, end to end)**: shifting every position of the atom by its own whole lattice vector — feeding
wrapped or unwrapped coordinates — leaves states, inner states, events and jumps unchanged (away from exact half-cell ties). -/
theorem run_shift_atoms (G : Sym3) (frac : ℚ) (mr : Int) (sites : List (V3 × ℚ)) (xs : List V3) (ns : List (ℤ × ℤ × ℤ))
    (hlen : ns.length = xs.length) (hn : ∀ x ∈ xs, NoTieTo sites x) :
    Pipeline.run G frac mr sites (List.zipWith (fun x n => shiftBy x n.1 n.2.1 n.2.2) xs ns) = Pipeline.run G frac mr sites xs := by
  have hs (f : ℚ) : statesOf G f sites (List.zipWith (fun x n => shiftBy x n.1 n.2.1 n.2.2) xs ns) = statesOf G f sites xs := by
    refine List.ext_getElem (by simp [statesOf, hlen]) fun k _ _ => ?_
    simp only [statesOf, List.getElem_map, List.getElem_zipWith]
    exact assign_shift_atom G f _ _ _ _ sites (hn _ (List.getElem_mem _))
  simp only [Pipeline.run, hs]

example : NoTieTo [((⟨0, 0, 0⟩ : V3), (1 : ℚ))] ⟨1/4, 0, 0⟩ := by
  intro p hp k
  rw [List.mem_singleton.mp hp, C07.v3_sub_def]
  exact ⟨C01.noTie_of_abs_lt (by norm_num) k, C01.noTie_of_abs_lt (by norm_num) k,
    C01.noTie_of_abs_lt (by norm_num) k⟩

/-- the history of a run that continues another is the concatenation of the two histories (what the long-run check of
C02 relies on) -/
theorem statesOf_append (G : Sym3) (frac : ℚ) (sites : List (V3 × ℚ)) (xs ys : List V3) :
    statesOf G frac sites (xs ++ ys) = statesOf G frac sites xs ++ statesOf G frac sites ys := by
  simp [statesOf]

theorem statesOf_length (G : Sym3) (frac : ℚ) (sites : List (V3 × ℚ)) (xs : List V3) :
    (statesOf G frac sites xs).length = xs.length := by simp [statesOf]

theorem eventsSpec_relabel (f : Int → Int) (hf : Function.Injective f) : ∀ (s i : List Int) (t : Nat),
    eventsSpec t (s.map f) (i.map f) = (eventsSpec t s i).map (Event.relabel f)
  | [], _, _ | [_], _, _ | _ :: _ :: _, [], _ | _ :: _ :: _, [_], _ => rfl
  | a :: b :: s, x :: y :: i, t => by
    have ih := eventsSpec_relabel f hf (b :: s) (y :: i) (t + 1)
    simp only [List.map_cons] at ih ⊢
    rw [eventsSpec, eventsSpec, ih, List.map_append]
    simp only [hf.ne_iff]
    split <;> rfl

theorem eventsAlgo_relabel (f : Int → Int) (hf : Function.Injective f) (s i : List Int) (h : s.length = i.length) :
    eventsAlgo (s.map f) (i.map f) = (eventsAlgo s i).map (Event.relabel f) := by
  rw [C03.eventsAlgo_eq_spec _ _ (by simpa using h), C03.eventsAlgo_eq_spec s i h]
  exact eventsSpec_relabel f hf s i 0

def St.relabel (f : Int → Int) (st : St) : St :=
  ⟨st.frm.map (Event.relabel f), st.cand.map (Jump.relabel f), st.out.map (Jump.relabel f)⟩

/-- `Event.relabel f = Event.move f 0` and `St.relabel f = St.move f 0` by `rfl` (`t + 0` reduces to `t`) -/
theorem step_relabel (f : Int → Int) (hf : Function.Injective f) (h1 : f (-1) = -1) (mr : Int) (st : St) (e : Event) :
    step mr (St.relabel f st) (Event.relabel f e) = St.relabel f (step mr st e) :=
  step_move hf 0 h1 mr st e

theorem run_relabel (f : Int → Int) (hf : Function.Injective f) (h1 : f (-1) = -1) (mr : Int) :
    ∀ (es : List Event) (st : St),
      Jumps.run mr (St.relabel f st) (es.map (Event.relabel f)) = St.relabel f (Jumps.run mr st es) :=
  run_move hf 0 h1 mr

theorem jumpsOfEvents_relabel (f : Int → Int) (hf : Function.Injective f) (h1 : f (-1) = -1) (mr : Int) (es : List Event) :
    jumpsOfEvents mr (es.map (Event.relabel f)) = (jumpsOfEvents mr es).map (Jump.relabel f) := by
  have h : (Jumps.run mr St.init (es.map (Event.relabel f))).out = (Jumps.run mr St.init es).out.map (Jump.relabel f) :=
    congrArg St.out (run_relabel f hf h1 mr es St.init)
  unfold jumpsOfEvents
  rw [h, List.filter_map]
  exact congrArg _ (List.filter_congr fun j _ => by simp [Jump.relabel, hf.eq_iff])

/-- **C07 (labelling)**: renaming the site indices renames the jumps and changes nothing else, whatever the
`minimal_residence`. -/
theorem jumpsOfHistory_relabel (f : Int → Int) (hf : Function.Injective f) (h1 : f (-1) = -1) (mr : Int)
    (s i : List Int) (h : s.length = i.length) :
    jumpsOfHistory mr (s.map f) (i.map f) = (jumpsOfHistory mr s i).map (Jump.relabel f) := by
  unfold jumpsOfHistory
  rw [eventsAlgo_relabel f hf s i h, jumpsOfEvents_relabel f hf h1]

theorem siteMap_neg_one (σ : Nat → Nat) : siteMap σ (-1) = -1 := by simp [siteMap]

theorem siteMap_injective (σ : Nat → Nat) (hσ : Function.Injective σ) : Function.Injective (siteMap σ) := by
  intro a b h
  unfold siteMap at h
  split_ifs at h with ha hb hb
  · exact h
  · omega
  · omega
  · have := hσ (Int.ofNat.inj h)
    omega

/-- `sites'` lists the same spheres as `sites`, the one at position `k` now at position `σ k` -/
structure Reorder (σ : Nat → Nat) (sites sites' : List (V3 × ℚ)) : Prop where
  fwd : ∀ k p, sites[k]? = some p → sites'[σ k]? = some p
  bwd : ∀ k' p, sites'[k']? = some p → ∃ k, σ k = k' ∧ sites[k]? = some p

def AtMostOne (G : Sym3) (frac : ℚ) (sites : List (V3 × ℚ)) (x : V3) : Prop :=
  ∀ (j k : Nat) (p q : V3 × ℚ), sites[j]? = some p → sites[k]? = some q →
    within G (p.2 * frac) p.1 x = true → within G (q.2 * frac) q.1 x = true → j = k

/-- `_hσ` is not needed -/
theorem assign_reorder (G : Sym3) (frac : ℚ) (σ : Nat → Nat) (_hσ : Function.Injective σ)
    (sites sites' : List (V3 × ℚ)) (hr : Reorder σ sites sites') (x : V3) (h1 : AtMostOne G frac sites x) :
    assign G frac sites' x = siteMap σ (assign G frac sites x) := by
  rcases C02.assign_range G frac sites x with hnone | ⟨hlo, _⟩
  · rw [hnone, siteMap_neg_one]
    rw [C02.assign_none_iff] at hnone ⊢
    intro p hp
    obtain ⟨k', hk'⟩ := List.getElem?_of_mem hp
    obtain ⟨k, _, hk⟩ := hr.bwd k' p hk'
    exact hnone p (List.mem_of_getElem? hk)
  · -- only the site at position `k` contains `x`: it is found at position `σ k`
    obtain ⟨k, hk⟩ := Int.eq_ofNat_of_zero_le hlo
    obtain ⟨s, r, hget, hin, _⟩ := C02.assign_sound G frac sites x k hk
    rw [hk, show siteMap σ (k : Int) = (σ k : Int) from if_neg (Int.not_lt.mpr (Int.natCast_nonneg k))]
    refine C07.assign_perm_sites G frac sites' x (σ k) (s, r) (hr.fwd k (s, r) hget) hin fun j' q hj' hq => ?_
    obtain ⟨j, rfl, hj⟩ := hr.bwd j' q hj'
    rw [h1 j k q (s, r) hj hget hq hin]

theorem statesOf_reorder (G : Sym3) (frac : ℚ) (σ : Nat → Nat) (hσ : Function.Injective σ)
    (sites sites' : List (V3 × ℚ)) (hr : Reorder σ sites sites') (xs : List V3)
    (h1 : ∀ x ∈ xs, AtMostOne G frac sites x) :
    statesOf G frac sites' xs = (statesOf G frac sites xs).map (siteMap σ) := by
  simp only [statesOf, List.map_map]
  exact List.map_congr_left fun x hx => assign_reorder G frac σ hσ sites sites' hr x (h1 x hx)

/-- **C07 (site order, end to end)**: with non-overlapping spheres on the trajectory (the automatic radius
guarantees that: `C02.auto_radius_disjoint`), listing the sites in another order renames states, inner states,
events and jumps by `σ` and changes nothing else. -/
theorem run_perm_sites (G : Sym3) (frac : ℚ) (mr : Int) (σ : Nat → Nat) (hσ : Function.Injective σ)
    (sites sites' : List (V3 × ℚ)) (hr : Reorder σ sites sites') (xs : List V3)
    (ho : ∀ x ∈ xs, AtMostOne G 1 sites x) (hi : ∀ x ∈ xs, AtMostOne G frac sites x) :
    Pipeline.run G frac mr sites' xs = Result.relabel (siteMap σ) (Pipeline.run G frac mr sites xs) := by
  have hinj := siteMap_injective σ hσ
  have hlen : (statesOf G 1 sites xs).length = (statesOf G frac sites xs).length :=
    (statesOf_length ..).trans (statesOf_length ..).symm
  simp only [Pipeline.run, Result.relabel, statesOf_reorder G 1 σ hσ sites sites' hr xs ho,
    statesOf_reorder G frac σ hσ sites sites' hr xs hi,
    eventsAlgo_relabel _ hinj _ _ hlen, jumpsOfHistory_relabel _ hinj (siteMap_neg_one σ) mr _ _ hlen]

/-- the rows the jump-count matrix is built from -/
def jumpPairs (r : Result) : List Counts.Pair := r.jumps.map (fun j => (j.o, j.d))

/-- **C07 (site order, count matrix)**: the jump-count matrix is permuted with the sites (rows and columns): entry
`(σ i, σ j)` after reordering is entry `(i, j)` before. -/
theorem matrix_perm_sites (G : Sym3) (frac : ℚ) (mr : Int) (σ : Nat → Nat) (hσ : Function.Injective σ)
    (sites sites' : List (V3 × ℚ)) (hr : Reorder σ sites sites') (xs : List V3)
    (ho : ∀ x ∈ xs, AtMostOne G 1 sites x) (hi : ∀ x ∈ xs, AtMostOne G frac sites x) (i j : Int) :
    Counts.countPair (jumpPairs (Pipeline.run G frac mr sites' xs)) (siteMap σ i, siteMap σ j)
      = Counts.countPair (jumpPairs (Pipeline.run G frac mr sites xs)) (i, j) := by
  rw [run_perm_sites G frac mr σ hσ sites sites' hr xs ho hi]
  have h : jumpPairs (Result.relabel (siteMap σ) (Pipeline.run G frac mr sites xs))
      = (jumpPairs (Pipeline.run G frac mr sites xs)).map (fun p => (siteMap σ p.1, siteMap σ p.2)) := by
    simp [jumpPairs, Result.relabel, Jump.relabel, List.map_map, Function.comp_def]
  rw [h]
  exact C07.countPair_relabel _ (siteMap σ) (siteMap_injective σ hσ) i j

theorem n_jumps_perm_sites (G : Sym3) (frac : ℚ) (mr : Int) (σ : Nat → Nat) (hσ : Function.Injective σ)
    (sites sites' : List (V3 × ℚ)) (hr : Reorder σ sites sites') (xs : List V3)
    (ho : ∀ x ∈ xs, AtMostOne G 1 sites x) (hi : ∀ x ∈ xs, AtMostOne G frac sites x) :
    (Pipeline.run G frac mr sites' xs).jumps.length = (Pipeline.run G frac mr sites xs).jumps.length := by
  rw [run_perm_sites G frac mr σ hσ sites sites' hr xs ho hi]
  simp [Result.relabel]

/-- **C07 (atom order)**: analysing atom by atom is a `List.map`, and a map carries a permutation of the atoms to
the same permutation of the results (true of any per-atom function). -/
theorem atoms_perm (G : Sym3) (frac : ℚ) (mr : Int) (sites : List (V3 × ℚ)) (atoms atoms' : List (List V3))
    (h : atoms'.Perm atoms) : (atoms'.map (Pipeline.run G frac mr sites)).Perm (atoms.map (Pipeline.run G frac mr sites)) :=
  h.map _

/-- two sites swapped in a cubic cell of edge 4; the atom hops 0 → (void) → 1 -/
example :
    let G : Sym3 := (⟨⟨4, 0, 0⟩, ⟨0, 4, 0⟩, ⟨0, 0, 4⟩⟩ : M3).metric
    let a : V3 × ℚ := (⟨0, 0, 0⟩, 1)
    let b : V3 × ℚ := (⟨1/2, 0, 0⟩, 1)
    let xs : List V3 := [⟨0, 0, 0⟩, ⟨1/4, 0, 0⟩, ⟨1/2, 0, 0⟩]
    (Pipeline.run G (1/2) 0 [a, b] xs).jumps = [⟨0, 1, 0, 2⟩] ∧ (Pipeline.run G (1/2) 0 [b, a] xs).jumps = [⟨1, 0, 0, 2⟩] := by
  decide +kernel

end G.C07Pipe
