import Mathlib.Data.Rat.Floor
import Mathlib.Tactic.Linarith
import Mathlib.Tactic.Positivity
/-!
# C08, rounding: the voxel round trip survives floating-point rounding

`voxel_to_frac_coords` computes `(v + 0.5) / n` and `frac_coords_to_voxel` truncates `x · n`.
`v + 0.5` is exact for every `v < 2^52`; the division and the multiplication each commit a
relative error of at most `u` (`u = 2^-53` for IEEE binary64 round-to-nearest).  The theorem holds
for ANY rounding operator with that error bound — so in particular for binary64 — and for every
voxel index `v` with `(v + ½)(2u + u²) < ½`, i.e. `v` below about `2^51`.
-/
namespace G.C08Fl

theorem relErr_comp {u a w y : ℚ} (hu : 0 ≤ u) (h1 : |w - a| ≤ u * |a|) (h2 : |y - w| ≤ u * |w|) :
    |y - a| ≤ (2 * u + u ^ 2) * |a| := by
  have hw : |w| ≤ (1 + u) * |a| := by
    have := abs_add_le a (w - a)
    rw [add_sub_cancel] at this
    linarith
  calc |y - a| ≤ |y - w| + |w - a| := abs_sub_le y w a
    _ ≤ u * ((1 + u) * |a|) + u * |a| := add_le_add (h2.trans (mul_le_mul_of_nonneg_left hw hu)) h1
    _ = (2 * u + u ^ 2) * |a| := by ring

theorem floor_eq_of_abs_sub_half_lt {y : ℚ} {v : ℤ} (h : |y - ((v : ℚ) + 1 / 2)| < 1 / 2) : ⌊y⌋ = v := by
  obtain ⟨h1, h2⟩ := abs_lt.mp h
  exact Int.floor_eq_iff.mpr ⟨by linarith, by linarith⟩

/-- **C08 (round trip under rounding)**: scaled by `n`, the first rounding has relative error `u` at
`v + ½`; after the second the value is within `(v + ½)(2u + u²) < ½` of `v + ½`. -/
theorem roundtrip_fl (u : ℚ) (hu : 0 ≤ u) (fl : ℚ → ℚ) (hfl : ∀ x, |fl x - x| ≤ u * |x|)
    (n v : ℕ) (hn : 0 < n) (hv : ((v : ℚ) + 1 / 2) * (2 * u + u ^ 2) < 1 / 2) :
    ⌊fl (fl (((v : ℚ) + 1 / 2) / n) * n)⌋ = (v : ℤ) := by
  have hnq : (n : ℚ) ≠ 0 := Nat.cast_ne_zero.mpr hn.ne'
  have ha : (0 : ℚ) < (v : ℚ) + 1 / 2 := by positivity
  have h1 := mul_le_mul_of_nonneg_right (hfl (((v : ℚ) + 1 / 2) / n)) (abs_nonneg (n : ℚ))
  rw [mul_assoc, ← abs_mul, ← abs_mul, sub_mul, div_mul_cancel₀ _ hnq] at h1
  have h := relErr_comp hu h1 (hfl _)
  rw [abs_of_pos ha, mul_comm _ ((v : ℚ) + 1 / 2)] at h
  exact floor_eq_of_abs_sub_half_lt (by exact_mod_cast h.trans_lt hv)

/-- the bound covers every voxel index below 2^50 for u = 2^-53 -/
theorem bound_binary64 (v : ℕ) (hv : v < 2 ^ 50) :
    ((v : ℚ) + 1 / 2) * (2 * (1 / 2 ^ 53) + (1 / 2 ^ 53 : ℚ) ^ 2) < 1 / 2 := by
  have h : (v : ℚ) < 2 ^ 50 := by exact_mod_cast hv
  have hc : (0 : ℚ) < 2 * (1 / 2 ^ 53) + (1 / 2 ^ 53 : ℚ) ^ 2 := by positivity
  calc ((v : ℚ) + 1 / 2) * (2 * (1 / 2 ^ 53) + (1 / 2 ^ 53 : ℚ) ^ 2)
      < (2 ^ 50 + 1 / 2) * (2 * (1 / 2 ^ 53) + (1 / 2 ^ 53 : ℚ) ^ 2) :=
        -- (`add_lt_add_right h _` instead of `linarith` sends the unifier into evaluating `2 ^ 50`: timeout)
        mul_lt_mul_of_pos_right (by linarith) hc
    _ < 1 / 2 := by norm_num

end G.C08Fl
