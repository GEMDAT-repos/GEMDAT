import GGen.FormulasC19
import GProofs.C19
import Mathlib.Tactic.Linarith
import Mathlib.Tactic.Ring
/-!
# C19 — obligations on the slice regenerated from `_split_transitions_events` and `Trajectory.split`
(GGen/FormulasC19.lean; see DESIGN 12.8): the time bins of the events and the frame intervals of the parts
-/
namespace G.C19Gen
open G

theorem inPart_iff (t a b : ℚ) : Gen.inPart t a b = true ↔ a ≤ t ∧ t < b := by
  unfold Gen.inPart
  exact decide_eq_true_iff.trans
    ⟨fun h => ⟨by linarith [h.1, h.2], by linarith [h.1, h.2]⟩, fun h => ⟨by linarith [h.1, h.2], by linarith [h.1, h.2]⟩⟩

/-- the selection of the model's `binEvents` (so `C19.binEvents_count`: every event in exactly one part) -/
theorem inPart_eq_model (t a b : Int) : Gen.inPart (t : ℚ) (a : ℚ) (b : ℚ) = (decide (a ≤ t) && decide (t < b)) := by
  rw [Bool.eq_iff_iff, inPart_iff]
  simp only [Bool.and_eq_true, decide_eq_true_eq, Int.cast_le, Int.cast_lt]

theorem inPart_consecutive (t a b c : ℚ) (hab : a ≤ b) (hbc : b ≤ c) :
    (Gen.inPart t a c = true ↔ (Gen.inPart t a b = true ∨ Gen.inPart t b c = true)) ∧
    ¬ (Gen.inPart t a b = true ∧ Gen.inPart t b c = true) := by
  simp only [inPart_iff]
  refine ⟨⟨fun ⟨h1, h2⟩ => ?_, fun h => ?_⟩, fun ⟨⟨_, h1⟩, ⟨h2, _⟩⟩ => absurd h1 (not_lt.mpr h2)⟩
  · rcases lt_or_ge t b with h | h
    · exact Or.inl ⟨h1, h⟩
    · exact Or.inr ⟨h, h2⟩
  · rcases h with ⟨h1, h2⟩ | ⟨h1, h2⟩
    · exact ⟨h1, lt_of_lt_of_le h2 hbc⟩
    · exact ⟨le_trans hab h1, h2⟩

theorem rebase_range (t a b : ℚ) (h : Gen.inPart t a b = true) : 0 ≤ Gen.rebase t a ∧ Gen.rebase t a < b - a := by
  obtain ⟨h1, h2⟩ := (inPart_iff t a b).mp h
  unfold Gen.rebase
  constructor <;> linarith

theorem rebase_inv (t a : ℚ) : Gen.rebase t a + a = t := by
  unfold Gen.rebase
  ring

/-- the bins end at `n_states + 1`, beyond every event time (the time of an event is the index of the frame before the
transition, 0 … n_states − 2) -/
theorem bins_args (n p : ℚ) : Gen.binsStart n p = 0 ∧ Gen.binsStop n p = n + 1 ∧ Gen.binsCount n p = p + 1 := by
  unfold Gen.binsStart Gen.binsStop Gen.binsCount
  refine ⟨?_, ?_, ?_⟩ <;> ring

theorem split_args (n p : ℚ) : Gen.splitStart n p = 0 ∧ Gen.splitStop n p = n - 1 ∧ Gen.splitCount n p = p + 1 := by
  unfold Gen.splitStart Gen.splitStop Gen.splitCount
  refine ⟨?_, ?_, ?_⟩ <;> ring

end G.C19Gen
