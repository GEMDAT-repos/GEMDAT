import GModel.Traj
import GProofs.Geometry
import Mathlib.Tactic.Ring
import Mathlib.Tactic.Linarith
import Mathlib.Algebra.BigOperators.Group.Finset.Basic
import Mathlib.Algebra.BigOperators.Ring.Finset
/-!
# C06 — the mean squared displacement equals its definition; the distance from the start is a Cartesian length

(The tracer-diffusivity formula of the property is `C14Gen.tracerDiffusivity_eq`.)
-/
namespace G.C06
open G G.Traj

-- `rfl` as long as `Finset.range n` unfolds to the list `List.range n` and `Finset.sum` over it to `List.sum` of the mapped list
theorem list_range_sum (f : Nat → Rat) (n : Nat) :
    ((List.range n).map f).sum = ∑ i ∈ Finset.range n, f i := rfl

theorem sqLen_sub (a b : V3) : sqLen (a - b) = sqLen a + sqLen b - 2 * b.dot a := by
  have h : a - b = V3.sub a b := rfl
  rw [h]
  simp only [sqLen, V3.dot, V3.sub]
  ring

theorem sqLen_nonneg (a : V3) : 0 ≤ sqLen a := Geometry.dot_self_nonneg a

/-- twice the total of `D`, less its first `m` and its last `m` terms (what `m` steps of the code's running sum have
removed), is the sum of `D k + D (k + m)` over the `N − m` windows of lag `m` -/
theorem S1_recursion (D : Nat → Rat) (N : Nat) : ∀ m, m ≤ N →
    2 * ∑ k ∈ Finset.range N, D k - ∑ j ∈ Finset.range m, (D j + D (N - 1 - j))
      = ∑ k ∈ Finset.range (N - m), (D k + D (k + m)) := by
  intro m hm
  -- `N = m + n`: cut the full sum once after its first `m` terms, once before its last `m` terms
  obtain ⟨n, rfl⟩ := Nat.exists_eq_add_of_le hm
  have hfirst := Finset.sum_range_add D m n
  have hlast := Finset.sum_range_add D n m
  have hrefl : ∑ j ∈ Finset.range m, D (m + n - 1 - j) = ∑ j ∈ Finset.range m, D (n + j) := by
    cases m with
    | zero => rfl
    | succ m =>
      rw [← Finset.sum_flip fun j => D (n + j)]
      exact Finset.sum_congr rfl fun j hj => by congr 1; have := Finset.mem_range.mp hj; omega
  rw [Nat.add_sub_cancel_left]
  simp only [Finset.sum_add_distrib, hrefl, Nat.add_comm _ m]
  rw [Nat.add_comm n m] at hlast
  linarith

theorem s1_numerator (n m : Nat) (D : Nat → Rat) (hm : m ≤ n) (hDn : D n = 0) :
    2 * ∑ k ∈ Finset.range n, D k - ∑ j ∈ Finset.range (m + 1), ((if j = 0 then 0 else D (j - 1)) + D (n - j))
      = ∑ k ∈ Finset.range (n - m), (D k + D (k + m)) := by
  rw [← S1_recursion D n m hm, Finset.sum_range_succ', if_pos rfl, Nat.sub_zero, hDn, add_zero, add_zero]
  refine congrArg _ (Finset.sum_congr rfl fun j _ => ?_)
  rw [if_neg (Nat.succ_ne_zero j), Nat.add_sub_cancel, Nat.sub_sub, Nat.add_comm 1 j]

/-- **C06 (MSD)**: algorithm = definition, for every Cartesian track and every lag. -/
theorem msdAlgo_eq_def (r : List V3) (m : Nat) (hm : m < r.length) : msdAlgo r m = msdDef r m := by
  have h1 := s1_numerator r.length m (fun k => if k < r.length then sqLen (r.getD k V3.zero) else 0) hm.le
    (if_neg (lt_irrefl _))
  unfold msdAlgo s1 s2 msdDef
  simp only [list_range_sum]
  -- over the common denominator: Σ (|r_k|² + |r_{k+m}|²) − 2 Σ r_k·r_{k+m} = Σ |r_{k+m} − r_k|², term by term
  rw [h1, ← mul_div_assoc, ← sub_div, Finset.mul_sum, ← Finset.sum_sub_distrib]
  refine congrArg (· / _) (Finset.sum_congr rfl fun k hk => ?_)
  have hk := Finset.mem_range.mp hk
  rw [if_pos (by omega), if_pos (by omega), sqLen_sub]
  ring

/-- **C06 (lag 0)**: every term of the definition is `|r(k) − r(k)|²`, so the mean squared displacement at lag 0 is 0. -/
theorem msdDef_zero (r : List V3) : msdDef r 0 = 0 := by
  unfold msdDef
  have h : ∀ a : V3, sqLen (a - a) = 0 := by
    intro a; rw [sqLen_sub]; simp only [sqLen]; ring
  simp [h]

theorem msdDef_nonneg (r : List V3) (m : Nat) : 0 ≤ msdDef r m := by
  unfold msdDef
  simp only [list_range_sum]
  apply div_nonneg
  · exact Finset.sum_nonneg (fun k _ => sqLen_nonneg _)
  · exact Nat.cast_nonneg _

/-- **C06 (distance)**: the metric-tensor length of a fractional vector is the squared Cartesian length of `v·M`: the
distance from the start is the Cartesian length of the unwrapped displacement, for every cell. -/
theorem metric_Q_eq_cart (M : M3) (v : V3) : M.metric.Q v = sqLen (M.cart v) := by
  simp only [M3.metric, M3.cart, Sym3.Q, V3.dot, sqLen]
  ring

theorem det_metric (M : M3) : M.metric.det = M.det ^ 2 := Geometry.det_metric M

theorem metric_Q_nonneg (M : M3) (v : V3) : 0 ≤ M.metric.Q v := by
  rw [metric_Q_eq_cart]
  exact sqLen_nonneg _

/-- a three-frame track in a skewed cell -/
example :
    let M : M3 := ⟨⟨2, 0, 0⟩, ⟨1, 2, 0⟩, ⟨0, 0, 3⟩⟩
    let r := [M.cart ⟨0, 0, 0⟩, M.cart ⟨1/2, 1/4, 0⟩, M.cart ⟨3/2, 1/2, 1/3⟩]
    msdAlgo r 1 = msdDef r 1 ∧ msdDef r 1 = 65/16 ∧ msdDef r 2 = 57/4 := by
  decide +kernel

end G.C06
