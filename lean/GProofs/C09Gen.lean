import GGen.FormulasC09
import Mathlib.Tactic.Ring
import Mathlib.Algebra.Order.Field.Rat
/-!
# C09 — obligations on the slice regenerated from `volume.py` (GGen/FormulasC09.lean; see DESIGN 12.8):
`Volume.get_free_energy`
-/
namespace G.C09Gen
open G

theorem freeEnergy_eq (T kB lp : ℚ) : Gen.freeEnergy T kB lp = -(kB * T) * lp := by
  unfold Gen.freeEnergy
  ring

theorem freeEnergy_antitone (T kB lp₁ lp₂ : ℚ) (hT : 0 < T) (hk : 0 < kB) (h : lp₁ ≤ lp₂) :
    Gen.freeEnergy T kB lp₂ ≤ Gen.freeEnergy T kB lp₁ := by
  rw [freeEnergy_eq, freeEnergy_eq]
  exact mul_le_mul_of_nonpos_left h (neg_nonpos.2 (mul_pos hk hT).le)

/-- probabilities are ≤ 1, so the free energy of a visited voxel is non-negative -/
theorem freeEnergy_nonneg (T kB lp : ℚ) (hT : 0 < T) (hk : 0 < kB) (h : lp ≤ 0) : 0 ≤ Gen.freeEnergy T kB lp := by
  rw [freeEnergy_eq]
  exact mul_nonneg_of_nonpos_of_nonpos (neg_nonpos.2 (mul_pos hk hT).le) h

/-- the replacement of the infinity of a never-visited voxel happens after the scaling by k_B T (so it cannot overflow) -/
theorem nanToNum_outermost : Gen.nanToNumOutermost = true := by
  rfl

end G.C09Gen
