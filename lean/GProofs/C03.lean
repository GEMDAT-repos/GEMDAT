import GModel.Events
/-!
# C03 — transition events are a faithful, complete change-log of the site states

The code builds the table by indexing: the change frames of the two histories (`changes`), merged as `np.union1d`
does (`union`), and one row per frame read from the arrays (`rowAt`).  The specification `eventsSpec` walks both
histories in lock-step.  The inductions over the histories carry a frame offset `t` and an ARBITRARY row function
(`events_gen`) or lookup function (`ffill_gen`) that is right on the frames at hand: the tails start at `t + 1`, and
`rowAt` of the whole arrays is not a row function of the tails.
-/
namespace G.C03
open G.Events

theorem mem_changes (xs : List Int) (t k : Nat) :
    k ∈ changes t xs ↔ ∃ j, k = t + j ∧ j + 1 < xs.length ∧ xs.getD j (-1) ≠ xs.getD (j + 1) (-1) := by
  fun_induction changes t xs with
  | case1 t a b rest ih =>
    rw [List.mem_append, ih]
    constructor
    · rintro (h | ⟨j, rfl, hj, hc⟩)
      · split at h
        · rename_i hab
          exact ⟨0, List.mem_singleton.mp h, Nat.succ_lt_succ (Nat.zero_lt_succ _), hab⟩
        · cases h
      · exact ⟨j + 1, Nat.add_right_comm t 1 j, Nat.succ_lt_succ hj, hc⟩
    · rintro ⟨_ | j, rfl, hj, hc⟩
      · exact .inl (by rw [if_pos (show a ≠ b from hc)]; exact List.mem_singleton_self _)
      · exact .inr ⟨j, (Nat.add_right_comm t 1 j).symm, Nat.lt_of_succ_lt_succ hj, hc⟩
  | case2 xs t hn =>
    match xs, hn with
    | [], _ => simp
    | [_], _ => simp
    | a :: b :: r, hn => exact (hn a b r rfl).elim

theorem changes_bounds {xs : List Int} {t k : Nat} (h : k ∈ changes t xs) : t ≤ k ∧ k + 1 < t + xs.length := by
  obtain ⟨j, rfl, hj, _⟩ := (mem_changes xs t k).mp h
  omega

theorem ins_of_lt {k : Nat} {l : List Nat} (h : ∀ x ∈ l, k < x) : ins k l = k :: l := by
  cases l with
  | nil => rfl
  | cons x xs => exact if_pos (h x List.mem_cons_self)

theorem ins_head (k : Nat) (l : List Nat) : ins k (k :: l) = k :: l :=
  (if_neg (Nat.lt_irrefl k)).trans (if_pos rfl)

theorem mem_ins (k x : Nat) (l : List Nat) : x ∈ ins k l ↔ x = k ∨ x ∈ l := by
  induction l with
  | nil => simp [ins]
  | cons y ys ih =>
    unfold ins
    split
    · simp
    · split
      · subst_vars; simp
      · simp only [List.mem_cons, ih]; exact or_left_comm

theorem union_cons_left (a : Nat) (as ys : List Nat) : union (a :: as) ys = ins a (union as ys) := rfl

theorem mem_union (x : Nat) (xs ys : List Nat) : x ∈ union xs ys ↔ x ∈ xs ∨ x ∈ ys := by
  induction xs with
  | nil => simp [union]
  | cons a as ih => rw [union_cons_left, mem_ins, ih, List.mem_cons, or_assoc]

theorem union_cons_right {t : Nat} {C : List Nat} (D : List Nat) (hC : ∀ x ∈ C, t < x) :
    union C (t :: D) = t :: union C D := by
  induction C with
  | nil => rfl
  | cons c cs ih =>
    have hc : t < c := hC c List.mem_cons_self
    rw [union_cons_left, union_cons_left, ih (fun x hx => hC x (List.mem_cons_of_mem _ hx))]
    exact (if_neg (Nat.lt_asymm hc)).trans (if_neg (Nat.ne_of_gt hc))

theorem events_gen (r : Nat → Event) : ∀ (s i : List Int) (t : Nat), s.length = i.length →
    (∀ j, j + 1 < s.length →
      r (t + j) = ⟨t + j, s.getD j (-1), s.getD (j + 1) (-1), i.getD j (-1), i.getD (j + 1) (-1)⟩) →
    (union (changes t s) (changes t i)).map r = eventsSpec t s i
  | [], [], _, _, _ | [_], [_], _, _, _ => rfl
  | a :: b :: s, x :: y :: i, t, h, hr => by
    have IH := events_gen r (b :: s) (y :: i) (t + 1) (Nat.succ.inj h) fun j hj => by
      rw [Nat.add_right_comm t 1 j]; exact hr (j + 1) (Nat.succ_lt_succ hj)
    have hrow : r t = ⟨t, a, b, x, y⟩ := hr 0 (Nat.succ_lt_succ (Nat.zero_lt_succ _))
    have hC : ∀ k ∈ changes (t + 1) (b :: s), t < k := fun k hk => (changes_bounds hk).1
    have hU : ∀ k ∈ union (changes (t + 1) (b :: s)) (changes (t + 1) (y :: i)), t < k := fun k hk =>
      ((mem_union _ _ _).mp hk).elim (hC k) fun hk => (changes_bounds hk).1
    rw [changes, changes, eventsSpec]
    by_cases hab : a ≠ b <;> by_cases hxy : x ≠ y
    · simp only [if_pos hab, if_pos hxy, if_pos (Or.inl hab), List.cons_append, List.nil_append]
      rw [union_cons_left, union_cons_right _ hC, ins_head, List.map_cons, hrow, IH]
    · simp only [if_pos hab, if_neg hxy, if_pos (Or.inl hab), List.cons_append, List.nil_append]
      rw [union_cons_left, ins_of_lt hU, List.map_cons, hrow, IH]
    · simp only [if_neg hab, if_pos hxy, if_pos (Or.inr hxy), List.cons_append, List.nil_append]
      rw [union_cons_right _ hC, List.map_cons, hrow, IH]
    · simp only [if_neg hab, if_neg hxy, if_neg (not_or.mpr ⟨hab, hxy⟩), List.nil_append]
      exact IH

/-- **C03 (table = specification)**: the rows built by the code are exactly the rows of the lock-step specification. -/
theorem eventsAlgo_eq_spec (s i : List Int) (h : s.length = i.length) :
    eventsAlgo s i = eventsSpec 0 s i :=
  events_gen (rowAt s i) s i 0 h fun j _ => by rw [Nat.zero_add]; rfl

theorem eventsSpec_ge {s i : List Int} {t : Nat} {e : Event} (h : e ∈ eventsSpec t s i) : t ≤ e.t := by
  fun_induction eventsSpec t s i with
  | case1 t a b s x y i ih =>
    rcases List.mem_append.mp h with h | h
    · split at h
      · rw [List.mem_singleton.mp h]; exact Nat.le_refl _
      · cases h
    · exact Nat.le_of_succ_le (ih h)
  | case2 => cases h

/-- **C03 (exactly the changes)**: a row is in the table iff its frame `t` is a frame at
which the site or the inner site differs from the next frame, and then it carries the
states before and after. -/
theorem mem_eventsSpec_iff (s i : List Int) (h : s.length = i.length) (e : Event) :
    e ∈ eventsSpec 0 s i ↔
      (e.t + 1 < s.length ∧
       (s.getD e.t (-1) ≠ s.getD (e.t + 1) (-1) ∨ i.getD e.t (-1) ≠ i.getD (e.t + 1) (-1)) ∧
       e = ⟨e.t, s.getD e.t (-1), s.getD (e.t + 1) (-1), i.getD e.t (-1), i.getD (e.t + 1) (-1)⟩) := by
  -- through the table the code builds: its frames are the change frames of either history
  rw [← eventsAlgo_eq_spec s i h, eventsAlgo, List.mem_map]
  simp only [mem_union, mem_changes, Nat.zero_add]
  constructor
  · rintro ⟨k, ⟨_, rfl, hj, hc⟩ | ⟨_, rfl, hj, hc⟩, rfl⟩
    · exact ⟨hj, .inl hc, rfl⟩
    · exact ⟨h ▸ hj, .inr hc, rfl⟩
  · rintro ⟨hj, hc, he⟩
    exact ⟨e.t, hc.imp (fun hc => ⟨_, rfl, hj, hc⟩) (fun hc => ⟨_, rfl, h ▸ hj, hc⟩), he.symm⟩

/-- **C03 (one row per change)**: row times are strictly increasing, hence no frame has two rows. -/
theorem eventsSpec_times_strict (s i : List Int) (t : Nat) :
    ((eventsSpec t s i).map (·.t)).Pairwise (· < ·) := by
  fun_induction eventsSpec t s i with
  | case1 t a b s x y i ih =>
    rw [List.map_append, List.pairwise_append]
    refine ⟨?_, ih, ?_⟩
    · split <;> simp
    · intro k hk l hl
      obtain ⟨e, he, rfl⟩ := List.mem_map.mp hl
      have := eventsSpec_ge he
      split at hk
      · simp at hk; omega
      · cases hk
  | case2 => exact List.Pairwise.nil

theorem replay_noop (s i : List Int) (t0 T : Nat) (st : Int × Int) (h : T ≤ t0) :
    (eventsSpec t0 s i).foldl (fun st e => if e.t < T then (e.s1, e.i1) else st) st = st :=
  List.foldlRecOn _ _ (motive := (· = st)) rfl fun _ hb _ he =>
    (if_neg (Nat.not_lt.mpr (Nat.le_trans h (eventsSpec_ge he)))).trans hb

theorem replay_gen : ∀ (s i : List Int) (t0 T : Nat), s.length = i.length → T < t0 + s.length →
    (eventsSpec t0 s i).foldl (fun st e => if e.t < T then (e.s1, e.i1) else st) (s.getD 0 (-1), i.getD 0 (-1))
      = (s.getD (T - t0) (-1), i.getD (T - t0) (-1))
  | [], [], _, _, _, _ => rfl
  | [_], [_], _, _, _, hT => by rw [Nat.sub_eq_zero_of_le (Nat.le_of_lt_succ hT)]; rfl
  | a :: b :: s, x :: y :: i, t, T, h, hT => by
    by_cases hle : T ≤ t
    · rw [Nat.sub_eq_zero_of_le hle]
      exact replay_noop (a :: b :: s) (x :: y :: i) t T _ hle
    · have hlt : t < T := Nat.lt_of_not_le hle
      -- the row of frame `t` is applied if there is one; if there is none, `(a, x) = (b, y)` already
      have hfirst : (if a ≠ b ∨ x ≠ y then [(⟨t, a, b, x, y⟩ : Event)] else []).foldl
          (fun st e => if e.t < T then (e.s1, e.i1) else st) (a, x) = (b, y) := by
        split
        · exact if_pos hlt
        · rename_i hc
          rw [not_or, Decidable.not_not, Decidable.not_not] at hc
          rw [hc.1, hc.2]; rfl
      rw [eventsSpec, List.foldl_append, show T - t = (T - (t + 1)) + 1 by omega]
      exact hfirst ▸ replay_gen (b :: s) (y :: i) (t + 1) T (Nat.succ.inj h) (by simp at hT ⊢; omega)

/-- **C03 (replay)**: replaying an atom's rows from its first-frame state reconstructs its
entire site and inner-site history. -/
theorem replay_reconstructs (s i : List Int) (h : s.length = i.length) (t : Nat) (ht : t < s.length) :
    replayAt (s.getD 0 (-1)) (i.getD 0 (-1)) (eventsSpec 0 s i) t = (s.getD t (-1), i.getD t (-1)) :=
  replay_gen s i 0 t h (by omega)

/-- a history with a first-frame change, an inner-only change and a last-frame change -/
example : eventsAlgo [0, -1, 1, 1, 1, 2] [0, -1, -1, 1, 1, -1]
    = [⟨0, 0, -1, 0, -1⟩, ⟨1, -1, 1, -1, -1⟩, ⟨2, 1, 1, -1, 1⟩, ⟨4, 1, 2, 1, -1⟩] := by decide

/-- `m` is the running maximum, the position of the last site seen; its value `last` is looked at only when the next
entry is no site (so at the start, where `m = 0` is no site seen yet, nothing is asked of it that the entry at 0 does
not give) -/
theorem ffill_gen (g : Nat → Int) (rest : List Int) (t m : Nat) (last : Int)
    (hg : ∀ j, j < rest.length → g (t + j) = rest.getD j (-1)) (hm : m ≤ t)
    (hl : rest.getD 0 (-1) = -1 → g m = last) :
    (ffillIdx t m rest).map g = ffillSpec last rest := by
  induction rest generalizing t m last with
  | nil => rfl
  | cons x xs ih =>
    have hx : g t = x := by simpa using hg 0 (by simp)
    have hg' : ∀ j, j < xs.length → g (t + 1 + j) = xs.getD j (-1) := fun j hj => by
      simpa [Nat.add_assoc, Nat.add_comm 1 j] using hg (j + 1) (by simpa using hj)
    simp only [ffillIdx, ffillSpec, List.map_cons]
    by_cases h : x ≠ -1
    · rw [if_pos h, if_pos h, Nat.max_eq_right hm, hx, ih (t + 1) t x hg' (Nat.le_succ t) fun _ => hx]
    · have hlast : g m = last := hl (Decidable.not_not.mp h)
      rw [if_neg h, if_neg h, Nat.max_eq_left (Nat.zero_le m), hlast,
        ih (t + 1) m last hg' (Nat.le_succ_of_le hm) fun _ => hlast]

/-- `utils.ffill` is "carry the most recent site". -/
theorem ffillAlgo_eq_spec (arr : List Int) : ffillAlgo arr = ffillSpec (-1) arr :=
  ffill_gen _ arr 0 0 (-1) (fun j _ => by rw [Nat.zero_add]) (Nat.le_refl 0) id

theorem ffillSpec_cons (last x : Int) (xs : List Int) :
    ffillSpec last (x :: xs) = (if x ≠ -1 then x else last) :: ffillSpec (if x ≠ -1 then x else last) xs := by
  rw [ffillSpec]; split <;> rfl

theorem ffillSpec_length (arr : List Int) (last : Int) : (ffillSpec last arr).length = arr.length := by
  induction arr generalizing last with
  | nil => rfl
  | cons x xs ih => rw [ffillSpec_cons, List.length_cons, ih, List.length_cons]

theorem ffillSpec_snoc (xs : List Int) (last x : Int) :
    ffillSpec last (xs ++ [x]) =
      ffillSpec last xs ++ [if x ≠ -1 then x else (ffillSpec last xs).getLastD last] := by
  induction xs generalizing last with
  | nil => exact ffillSpec_cons last x []
  | cons y ys ih => rw [List.cons_append, ffillSpec_cons, ih, ffillSpec_cons, List.cons_append, List.getLastD_cons]

theorem ffillSpec_reverse (arr : List Int) : (ffillSpec (-1) arr.reverse).reverse = bfillSpec arr := by
  induction arr with
  | nil => rfl
  | cons x xs ih =>
    rw [List.reverse_cons, ffillSpec_snoc, List.reverse_append]
    simp only [bfillSpec, List.reverse_cons, List.reverse_nil, List.nil_append, List.cons_append]
    rw [← ih]
    simp [List.headD_eq_head?_getD]

/-- `utils.bfill` is "the next site". -/
theorem bfillAlgo_eq_spec (arr : List Int) : bfillAlgo arr = bfillSpec arr := by
  rw [bfillAlgo, ffillAlgo_eq_spec, ffillSpec_reverse]

theorem ffillSpec_getD (arr : List Int) (last : Int) (t : Nat) (ht : t < arr.length) :
    (ffillSpec last arr).getD t (-1) =
      if arr.getD t (-1) ≠ -1 then arr.getD t (-1) else (last :: ffillSpec last arr).getD t (-1) := by
  induction arr generalizing last t with
  | nil => cases ht
  | cons x xs ih =>
    rw [ffillSpec_cons]
    cases t with
    | zero => simp
    | succ t => simpa using ih _ t (by simpa using ht)

theorem ffillSpec_get_gen (arr : List Int) (last : Int) (t : Nat) (ht : t < arr.length) :
    (∃ t', t' ≤ t ∧ arr.getD t' (-1) ≠ -1 ∧ (ffillSpec last arr).getD t (-1) = arr.getD t' (-1) ∧
        ∀ u, t' < u → u ≤ t → arr.getD u (-1) = -1) ∨
    ((∀ u, u ≤ t → arr.getD u (-1) = -1) ∧ (ffillSpec last arr).getD t (-1) = last) := by
  induction t using Nat.strongRecOn with | _ t ih
  rw [ffillSpec_getD arr last t ht]
  by_cases hx : arr.getD t (-1) ≠ -1
  · rw [if_pos hx]
    exact .inl ⟨t, Nat.le_refl t, hx, rfl, fun u h1 h2 => absurd h2 (Nat.not_le.mpr h1)⟩
  · rw [if_neg hx]
    have hx' : arr.getD t (-1) = -1 := Decidable.not_not.mp hx
    cases t with
    | zero => exact .inr ⟨fun u hu => Nat.le_zero.mp hu ▸ hx', rfl⟩
    | succ t =>
      have ext : ∀ u, u ≤ t + 1 → (u ≤ t → arr.getD u (-1) = -1) → arr.getD u (-1) = -1 :=
        fun u hu h => (Nat.le_succ_iff.mp hu).elim h fun hu => hu ▸ hx'
      rcases ih t (Nat.lt_succ_self t) (Nat.lt_of_succ_lt ht) with ⟨t', h1, h2, h3, h4⟩ | ⟨h1, h2⟩
      · exact .inl ⟨t', Nat.le_succ_of_le h1, h2, h3, fun u hu1 hu2 => ext u hu2 (h4 u hu1)⟩
      · exact .inr ⟨fun u hu => ext u hu (h1 u), h2⟩

/-- meaning of the forward fill: the entry at `t` is the site at the greatest `t' ≤ t`
with a site, and `-1` when there is none. -/
theorem ffillSpec_get (arr : List Int) (t : Nat) (ht : t < arr.length) :
    (∃ t', t' ≤ t ∧ arr.getD t' (-1) ≠ -1 ∧ (ffillSpec (-1) arr).getD t (-1) = arr.getD t' (-1) ∧
        ∀ u, t' < u → u ≤ t → arr.getD u (-1) = -1) ∨
    ((∀ u, u ≤ t → arr.getD u (-1) = -1) ∧ (ffillSpec (-1) arr).getD t (-1) = -1) :=
  ffillSpec_get_gen arr (-1) t ht

theorem getD_reverse {α : Type} {d : α} (l : List α) (u : Nat) (h : u < l.length) :
    l.reverse.getD u d = l.getD (l.length - 1 - u) d := by
  rw [List.getD_eq_getElem?_getD, List.getD_eq_getElem?_getD, List.getElem?_reverse h]

/-- meaning of the backward fill: the entry at `t` is the site at the least `t' ≥ t`
with a site, and `-1` when there is none. -/
theorem bfillSpec_get (arr : List Int) (t : Nat) (ht : t < arr.length) :
    (∃ t', t ≤ t' ∧ t' < arr.length ∧ arr.getD t' (-1) ≠ -1 ∧ (bfillSpec arr).getD t (-1) = arr.getD t' (-1) ∧
        ∀ u, t ≤ u → u < t' → arr.getD u (-1) = -1) ∨
    ((∀ u, t ≤ u → u < arr.length → arr.getD u (-1) = -1) ∧ (bfillSpec arr).getD t (-1) = -1) := by
  -- backward fill is forward fill of the reversed array (`ffillSpec_reverse`): `ffillSpec_get`, read backwards
  have hlen : (ffillSpec (-1) arr.reverse).length = arr.length := by rw [ffillSpec_length, List.length_reverse]
  rw [← ffillSpec_reverse, getD_reverse _ _ (hlen ▸ ht), hlen]
  have hm : ∀ u, u < arr.length → arr.getD u (-1) = arr.reverse.getD (arr.length - 1 - u) (-1) := fun u hu => by
    simpa using getD_reverse arr.reverse u (by simpa using hu)
  rcases ffillSpec_get arr.reverse (arr.length - 1 - t) (by rw [List.length_reverse]; omega) with
    ⟨t', h1, h2, h3, h4⟩ | ⟨h1, h2⟩
  · have ht' : t' < arr.length := by omega
    rw [getD_reverse _ _ ht'] at h2 h3
    exact .inl ⟨arr.length - 1 - t', by omega, by omega, h2, h3, fun u hu1 hu2 =>
      (hm u (by omega)).trans (h4 _ (by omega) (Nat.sub_le_sub_left hu1 _))⟩
  · exact .inr ⟨fun u hu1 hu2 => (hm u hu2).trans (h1 _ (Nat.sub_le_sub_left hu1 _)), h2⟩

example : ffillAlgo [-1, 2, -1, -1, 0, -1] = [-1, 2, 2, 2, 0, 0] ∧
          bfillAlgo [-1, 2, -1, -1, 0, -1] = [2, 2, 0, 0, 0, -1] := by decide

/-! ## the `np.roll` formulation (defect D4, repaired by f616709) -/

theorem Roll.roll_eq (h : Int) (r : List Int) (a : Int) (t : Nat) :
    Roll.nonzeroFrom t (Roll.neqRollAux h (a :: r)) =
      changes t (a :: r) ++ (if (a :: r).getLast (by simp) ≠ h then [t + r.length] else []) := by
  induction r generalizing a t with
  | nil => by_cases hah : a = h <;> simp [Roll.neqRollAux, Roll.nonzeroFrom, changes, hah]
  | cons b rest ih =>
    simp only [Roll.neqRollAux, Roll.nonzeroFrom, changes, ih b (t + 1), List.getLast_cons_cons, List.length_cons,
      bne_iff_ne, List.append_assoc]
    rw [Nat.add_right_comm t 1, Nat.add_assoc]
    rfl

theorem changes_replicate (x : Int) (n t : Nat) : changes t (List.replicate n x) = [] := by
  induction n generalizing t with
  | zero => rfl
  | succ n ih =>
    cases n with
    | zero => rfl
    | succ n =>
      rw [List.replicate_succ, List.replicate_succ, changes, if_neg (fun h => h rfl), ← List.replicate_succ, ih]
      rfl

/-- when the history has a change, `x != np.roll(x,-1)` → nonzero → "drop the last index if it
is T−1" returns exactly the true change frames … -/
theorem Roll.changesAlgo_eq (xs : List Int) (hne : changes 0 xs ≠ []) :
    Roll.changesAlgo xs = some (changes 0 xs) := by
  cases xs with
  | nil => exact absurd rfl hne
  | cons a r =>
    rw [Roll.changesAlgo, Roll.neqRoll, Roll.roll_eq a r a 0]
    split
    · simp [Roll.dropWrap, List.getLast?_append]
    · -- no wrap-around index, and the last true change frame is before `T − 1`
      have := (changes_bounds (List.getLast_mem hne)).2
      rw [List.append_nil, Roll.dropWrap, List.getLast?_eq_some_getLast hne]
      exact if_neg (by simp at this ⊢; omega)

/-- … but on a constant history the index array is empty and `[-1]` raises. -/
theorem Roll.changesAlgo_const (x : Int) (n : Nat) : Roll.changesAlgo (List.replicate n x) = none := by
  cases n with
  | zero => rfl
  | succ n =>
    have hl : ¬ (x :: List.replicate n x).getLast (by simp) ≠ x := fun h => h (List.getLast_replicate (n := n + 1) _)
    rw [Roll.changesAlgo, List.replicate_succ, Roll.neqRoll, Roll.roll_eq, if_neg hl, ← List.replicate_succ,
      changes_replicate]
    rfl

/-- D4 witness: outer history with a change, inner history constant ⇒ `IndexError`. -/
theorem Roll.eventsRoll_indexError :
    (match Roll.eventsRoll [-1, 0] [-1, -1] with | .indexError => true | _ => false) = true := by
  decide

/-- D4 witness: an atom whose inner site changes while its outer site does not was skipped. -/
theorem Roll.eventsRoll_skips_inner_only :
    (match Roll.eventsRoll [0, 0, 0] [0, -1, 0] with | .skip => true | _ => false) = true := by
  decide

end G.C03
