import GModel.RdfNames
import GProofs.C11
import GProofs.Sums
import GProofs.Lists
/-!
# C11 (names) — under which key the per-state counts are filed

With fewer than 999 labels no two triples share a code (`C11.stateCode_injective`), so no entry of the dictionary
`_get_states` builds is overwritten; filing by NAME instead of by code is an instance of `C05.sum_group`.
-/
namespace G.C11Names
open G G.Rdf G.RdfNames

theorem stateName_on_site (u : List String) (i j k : Int) (h : i ≠ -1) :
    stateName u i j k = "@" ++ pyGet u i := by
  unfold stateName; rw [if_pos h]

theorem stateName_transit (u : List String) (j k : Int) (hj : j ≠ -1) (hk : k ≠ -1) :
    stateName u (-1) j k = pyGet u j ++ "->" ++ pyGet u k := by
  unfold stateName
  rw [if_neg (by simp), if_neg (by simp [hj, hk])]

theorem stateName_unknown (u : List String) (j k : Int) (h : j = -1 ∨ k = -1) :
    stateName u (-1) j k = "~>" ++ pyGet u j := by
  unfold stateName
  rw [if_neg (by simp), if_pos h]

theorem pyGet_nonneg (u : List String) (n : Nat) (h : n < u.length) : pyGet u (n : Int) = u[n] := by
  unfold pyGet
  simp [h]

theorem pyGet_neg_one (u : List String) (h : u ≠ []) : pyGet u (-1) = u.getLast h := by
  unfold pyGet
  have hl : 0 < u.length := List.length_pos_iff.mpr h
  simp only [show ¬ (0 : Int) ≤ -1 by omega, if_false]
  have : (-(-1 : Int)).toNat = 1 := by decide
  rw [this, List.getD_eq_getElem?_getD, List.getLast_eq_getElem, List.getElem?_eq_getElem (by omega)]
  rfl

theorem lookup_foldl {code : Int} {v : String} {tbl : List (Int × String)} {acc : Option String}
    (hall : ∀ e ∈ tbl, e.1 = code → e.2 = v) (h : acc = some v ∨ ∃ e ∈ tbl, e.1 = code) :
    tbl.foldl (fun acc e => if e.1 = code then some e.2 else acc) acc = some v := by
  induction tbl generalizing acc with
  | nil => exact h.resolve_right (by simp)
  | cons e tbl ih =>
    refine ih (acc := if e.1 = code then some e.2 else acc) (fun e' h' => hall e' (List.mem_cons_of_mem _ h')) ?_
    by_cases he : e.1 = code
    · exact Or.inl (by rw [if_pos he, hall e List.mem_cons_self he])
    · rw [if_neg he]
      exact h.imp_right fun ⟨e', h', hc⟩ => ⟨e', (List.mem_cons.mp h').resolve_left fun e0 => he (e0 ▸ hc), hc⟩

theorem mem_table (u : List String) (e : Int × String) :
    e ∈ table u ↔ ∃ i j k : Int, (-1 ≤ i ∧ i < u.length) ∧ (-1 ≤ j ∧ j < u.length) ∧ (-1 ≤ k ∧ k < u.length) ∧
      e = (stateCode i j k, stateName u i j k) := by
  unfold table
  simp only [List.mem_flatMap, List.mem_map, Lists.mem_neg_one_cons_range]
  constructor
  · rintro ⟨i, hi, j, hj, k, hk, rfl⟩; exact ⟨i, j, k, hi, hj, hk, rfl⟩
  · rintro ⟨i, j, k, hi, hj, hk, rfl⟩; exact ⟨i, hi, j, hj, k, hk, rfl⟩

/-- **C11 (names)**: the dictionary maps the code of every triple that can occur to `stateName` of that triple. -/
theorem lookup_table (u : List String) (hu : u.length < 999) (i j k : Int)
    (hi : -1 ≤ i ∧ i < u.length) (hj : -1 ≤ j ∧ j < u.length) (hk : -1 ≤ k ∧ k < u.length) :
    lookup (table u) (stateCode i j k) = some (stateName u i j k) := by
  refine lookup_foldl (fun e he hc => ?_) (Or.inr ⟨_, (mem_table u _).2 ⟨i, j, k, hi, hj, hk, rfl⟩, rfl⟩)
  obtain ⟨i', j', k', hi', hj', hk', rfl⟩ := (mem_table u e).1 he
  have hb : ∀ x : Int, (-1 ≤ x ∧ x < u.length) → (-1 ≤ x ∧ x < 999) := fun x h => ⟨h.1, by omega⟩
  obtain ⟨rfl, rfl, rfl⟩ := C11.stateCode_injective i' j' k' i j k (hb _ hi') (hb _ hj') (hb _ hk') (hb _ hi) (hb _ hj) (hb _ hk) hc
  rfl

/-- **C11 (partition survives the naming)**: the counts filed under all names add up to the counts of all codes;
each contribution is filed under exactly one name. -/
theorem pooled_total (name : Int → String) (contribs : List (Int × Nat)) (names : List String) (hnd : names.Nodup)
    (hall : ∀ c ∈ contribs, name c.1 ∈ names) :
    (names.map (pooled name contribs)).sum = (contribs.map (·.2)).sum :=
  C05.sum_group (fun c : Int × Nat => name c.1) (·.2) hnd contribs hall

/-- the quirk that stays in the model: with labels [A, B] the code of "left an A site, next
site unknown" is filed under `~>A`, the code of "nothing known" under `~>B` (Python's `u[-1]`) -/
example : lookup (table ["A", "B"]) (stateCode (-1) 0 (-1)) = some "~>A" ∧
    lookup (table ["A", "B"]) (stateCode (-1) (-1) (-1)) = some "~>B" ∧
    lookup (table ["A", "B"]) (stateCode 1 0 (-1)) = some "@B" ∧
    lookup (table ["A", "B"]) (stateCode (-1) 0 1) = some "A->B" := by decide

end G.C11Names
