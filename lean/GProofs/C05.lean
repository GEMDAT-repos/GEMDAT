import GModel.Counts
import GProofs.Sums
import GProofs.Lists
/-!
# C05 — count matrices, occupancy and the jump-diffusivity sum conserve counts

With all indices inside `[0, n)` (`Valid`) the fancy-index assignment of unique-pair counts (`matrixAsIs`) agrees with
`matrixSpec`; otherwise a row touching "no site" (−1) is folded into the last site and may overwrite a real count
(defect D5, a known finding).  The conservation statements are instances of `sum_group`: group the rows by origin,
then by destination (`gridSum_fiber`), or the states by site.
-/
namespace G.C05
open G G.Counts

def Valid (rows : List Pair) (n : Nat) : Prop :=
  ∀ p ∈ rows, 0 ≤ p.1 ∧ p.1 < n ∧ 0 ≤ p.2 ∧ p.2 < n

theorem mem_insPair (x p : Pair) (l : List Pair) : x ∈ insPair p l ↔ x = p ∨ x ∈ l := by
  induction l with
  | nil => simp [insPair]
  | cons q qs ih =>
    unfold insPair
    split
    · exact List.mem_cons
    · split
      · subst_vars; simp
      · rw [List.mem_cons, ih, List.mem_cons, or_left_comm]

theorem mem_uniquePairs (x : Pair) (rows : List Pair) : x ∈ uniquePairs rows ↔ x ∈ rows := by
  induction rows with
  | nil => rfl
  | cons p ps ih => rw [uniquePairs, List.foldr_cons, mem_insPair, ← uniquePairs, ih, List.mem_cons]

def Square (n : Nat) (m : Mat) : Prop := m.length = n ∧ ∀ r ∈ m, r.length = n

theorem square_zeros (n : Nat) : Square n (zeros n) := by
  refine ⟨by simp [zeros], ?_⟩
  intro r hr
  simp only [zeros, List.mem_replicate] at hr
  simp [hr.2]

theorem square_set {n : Nat} {m : Mat} (h : Square n m) (i j v : Nat) : Square n (m.set i j v) := by
  unfold Mat.set
  split
  next row hrow =>
    refine ⟨by simp [h.1], ?_⟩
    intro r hr
    rcases List.mem_or_eq_of_mem_set hr with h1 | h1
    · exact h.2 r h1
    · subst h1
      simpa using h.2 row (List.mem_of_getElem? hrow)
  next => exact h

theorem get_set {n : Nat} {m : Mat} (h : Square n m) {i j : Nat} (hi : i < n) (hj : j < n) (v i' j' : Nat) :
    (m.set i j v).get i' j' = if i' = i ∧ j' = j then v else m.get i' j' := by
  have hil : i < m.length := h.1 ▸ hi
  have hjl : j < (m[i]).length := (h.2 _ (List.getElem_mem hil)).symm ▸ hj
  simp only [Mat.set, List.getElem?_eq_getElem hil, Mat.get, List.getD_eq_getElem?_getD, List.getElem?_set]
  by_cases h1 : i = i'
  · subst h1
    by_cases h2 : j = j'
    · subst h2; simp [hil, hjl]
    · simp [hil, h2, Ne.symm h2]
  · simp [h1, Ne.symm h1]

theorem pyIdx_valid {x : Int} {n : Nat} (h0 : 0 ≤ x) (h1 : x < n) : pyIdx x n = some x.toNat := by
  simp [pyIdx, h0, h1]

theorem square_assign {n : Nat} {m m' : Mat} {p : Pair} {v : Nat} (h : Square n m)
    (ha : assign n m p v = some m') : Square n m' := by
  unfold assign at ha
  split at ha
  · cases ha
    exact square_set h _ _ _
  · cases ha

theorem fold_square (n : Nat) (v : Pair → Nat) (ps : List Pair) (m0 m : Mat) (h0 : Square n m0)
    (h : ps.foldl (fun acc p => acc.bind (fun m => assign n m p (v p))) (some m0) = some m) :
    Square n m := by
  refine List.foldlRecOn ps _ (motive := fun acc => ∀ m, acc = some m → Square n m)
    (fun m e => Option.some.inj e ▸ h0) (fun acc ih p _ m e => ?_) m h
  obtain ⟨m1, e1, ha⟩ := Option.bind_eq_some_iff.1 e
  exact square_assign (ih m1 e1) ha

theorem fold_get (n : Nat) (v : Pair → Nat) (ps : List Pair) (hv : Valid ps n) (m0 : Mat) (h0 : Square n m0) :
    ∃ m, ps.foldl (fun acc p => acc.bind (fun m => assign n m p (v p))) (some m0) = some m ∧
      ∀ i j, i < n → j < n →
        m.get i j = if ((i : Int), (j : Int)) ∈ ps then v ((i : Int), (j : Int)) else m0.get i j := by
  induction ps generalizing m0 with
  | nil => exact ⟨m0, rfl, by simp⟩
  | cons p ps ih =>
    obtain ⟨hp0, hp1, hp2, hp3⟩ := hv p List.mem_cons_self
    have ha : assign n m0 p (v p) = some (m0.set p.1.toNat p.2.toNat (v p)) := by
      simp [assign, pyIdx_valid hp0 hp1, pyIdx_valid hp2 hp3]
    obtain ⟨m, hm, hget⟩ := ih (fun q hq => hv q (List.mem_cons_of_mem _ hq)) _ (square_set h0 _ _ (v p))
    refine ⟨m, by rw [List.foldl_cons, Option.bind_some, ha]; exact hm, fun i j hi hj => ?_⟩
    have hp : ((i : Int), (j : Int)) = p ↔ i = p.1.toNat ∧ j = p.2.toNat := by
      rw [Prod.ext_iff]; show (i : Int) = p.1 ∧ (j : Int) = p.2 ↔ _; omega
    rw [hget i j hi hj, get_set h0 ((Int.toNat_lt hp0).2 hp1) ((Int.toNat_lt hp2).2 hp3)]
    simp only [← hp, List.mem_cons]
    -- a later row overwrites; otherwise the write of this row is read back at `(i, j) = p`
    by_cases hmem : ((i : Int), (j : Int)) ∈ ps
    · rw [if_pos hmem, if_pos (.inr hmem)]
    · by_cases hpe : ((i : Int), (j : Int)) = p
      · rw [if_neg hmem, if_pos hpe, if_pos (.inl hpe), hpe]
      · rw [if_neg hmem, if_neg hpe, if_neg (not_or.2 ⟨hpe, hmem⟩)]

theorem countPair_eq_zero {rows : List Pair} {p : Pair} (h : p ∉ rows) : countPair rows p = 0 := by
  unfold countPair
  rw [List.length_eq_zero_iff, List.filter_eq_nil_iff]
  intro a ha he
  simp at he
  subst he; exact h ha

theorem zeros_get (n i j : Nat) : (zeros n).get i j = 0 := by
  simp only [Mat.get, zeros, List.getD_eq_getElem?_getD, List.getElem?_replicate]
  split
  · simp only [Option.getD_some, List.getElem?_replicate]; split <;> simp
  · simp

/-- **C05 (matrix entry)**: entry (i, j) equals the number of recorded moves i → j. -/
theorem matrixAsIs_get (rows : List Pair) (n : Nat) (hv : Valid rows n) :
    ∃ m, matrixAsIs rows n = some m ∧
      ∀ i j, i < n → j < n → m.get i j = countPair rows ((i : Int), (j : Int)) := by
  have hv' : Valid (uniquePairs rows) n := fun p hp => hv p ((mem_uniquePairs p rows).1 hp)
  obtain ⟨m, hm, hget⟩ := fold_get n (countPair rows) (uniquePairs rows) hv' (zeros n) (square_zeros n)
  refine ⟨m, hm, ?_⟩
  intro i j hi hj
  rw [hget i j hi hj]
  split
  · rfl
  · next h => rw [zeros_get, countPair_eq_zero (fun h' => h ((mem_uniquePairs _ rows).2 h'))]

theorem matrixAsIs_shape (rows : List Pair) (n : Nat) (m : Mat) (h : matrixAsIs rows n = some m) :
    m.length = n ∧ ∀ r ∈ m, r.length = n :=
  fold_square n (countPair rows) (uniquePairs rows) (zeros n) m (square_zeros n) h

section Sums
-- as in `GProofs.Sums`: every theorem of the section takes all five instances
set_option linter.unusedSectionVars false
variable {α : Type} [Add α] [Zero α]
  [Std.Associative (α := α) (· + ·)] [Std.Commutative (α := α) (· + ·)]
  [Std.LawfulIdentity (α := α) (· + ·) 0]

def gridSum (n : Nat) (F : Nat → Nat → α) : α :=
  ((List.range n).map (fun i => ((List.range n).map (fun j => F i j)).sum)).sum

theorem gridSum_add (n : Nat) (F H : Nat → Nat → α) :
    gridSum n (fun i j => F i j + H i j) = gridSum n F + gridSum n H := by
  unfold gridSum
  rw [← sum_map_add]
  congr 1
  apply List.map_congr_left
  intro i _
  exact sum_map_add _ _ _

theorem gridSum_congr (n : Nat) (F H : Nat → Nat → α) (h : ∀ i j, i < n → j < n → F i j = H i j) :
    gridSum n F = gridSum n H := by
  refine congrArg List.sum (List.map_congr_left fun i hi => congrArg List.sum (List.map_congr_left fun j hj => ?_))
  exact h i j (List.mem_range.1 hi) (List.mem_range.1 hj)

theorem gridSum_fiber (n : Nat) (rows : List Pair) (hv : Valid rows n) (w : Pair → α) :
    gridSum n (fun i j => ((rows.filter (fun p => p = ((i : Int), (j : Int)))).map w).sum) = (rows.map w).sum := by
  rw [← sum_group (fun p : Pair => p.1.toNat) w List.nodup_range rows
    fun p hp => List.mem_range.2 ((Int.toNat_lt (hv p hp).1).2 (hv p hp).2.1)]
  apply congrArg List.sum (List.map_congr_left fun i _ => ?_)
  rw [← sum_group (fun p : Pair => p.2.toNat) w List.nodup_range _
    fun p hp => have h := hv p (List.mem_filter.1 hp).1; List.mem_range.2 ((Int.toNat_lt h.2.2.1).2 h.2.2.2)]
  apply congrArg List.sum (List.map_congr_left fun j _ => ?_)
  rw [List.filter_filter]
  refine congrArg (fun r => (r.map w).sum) (List.filter_congr fun p hp => ?_)
  have := hv p hp
  rw [← Bool.decide_and, decide_eq_decide, Prod.ext_iff]
  omega

theorem gridSum_ind (n : Nat) (p : Pair) (hp : 0 ≤ p.1 ∧ p.1 < n ∧ 0 ≤ p.2 ∧ p.2 < n) (F : Nat → Nat → α) :
    gridSum n (fun i j => if p = ((i : Int), (j : Int)) then F i j else 0) = F p.1.toNat p.2.toNat := by
  have h := gridSum_fiber n [p] (fun q hq => List.mem_singleton.1 hq ▸ hp) (fun q => F q.1.toNat q.2.toNat)
  rw [List.map_singleton, List.sum_cons, List.sum_nil, add_zero'] at h
  rw [← h]
  congr 1
  funext i j
  by_cases e : p = ((i : Int), (j : Int))
  · subst e; simp [add_zero']
  · simp [e]

end Sums

theorem countPair_cons (p q : Pair) (rows : List Pair) :
    countPair (p :: rows) q = countPair rows q + (if p = q then 1 else 0) := by
  unfold countPair
  by_cases h : p = q <;> simp [h]

theorem matrixSpec_get (rows : List Pair) (n i j : Nat) (hi : i < n) (hj : j < n) :
    (matrixSpec rows n).get i j = countPair rows ((i : Int), (j : Int)) := by
  simp [Mat.get, matrixSpec, List.getD_eq_getElem?_getD, hi, hj]

theorem matrixSpec_sum_eq (rows : List Pair) (n : Nat) :
    (matrixSpec rows n).sum = gridSum n (fun i j => countPair rows ((i : Int), (j : Int))) := by
  simp [Mat.sum, matrixSpec, gridSum, List.map_map, Function.comp_def]

theorem gridSum_countPair (n : Nat) (rows : List Pair) (hv : Valid rows n) :
    gridSum n (fun i j => countPair rows ((i : Int), (j : Int))) = rows.length := by
  simpa only [sum_map_one, countPair] using gridSum_fiber n rows hv fun _ => (1 : Nat)

/-- **C05 (sum)**: the matrix sums to the number of rows (= number of jumps). -/
theorem matrixSpec_sum (rows : List Pair) (n : Nat) (hv : Valid rows n) :
    (matrixSpec rows n).sum = rows.length := by
  rw [matrixSpec_sum_eq, gridSum_countPair n rows hv]

/-- **C05 (diagonal)**: when no row has origin = destination the diagonal is empty. -/
theorem matrixSpec_diag (rows : List Pair) (n : Nat) (hd : ∀ p ∈ rows, p.1 ≠ p.2) (i : Nat) (hi : i < n) :
    (matrixSpec rows n).get i i = 0 := by
  rw [matrixSpec_get rows n i i hi hi]
  apply countPair_eq_zero
  intro h
  exact hd _ h rfl

theorem zipIdx_range (n : Nat) : (List.range n).zipIdx = (List.range n).map (fun i => (i, i)) := by
  apply List.ext_getElem
  · simp
  · intro k h1 h2
    simp

theorem weightedSum_eq (w : Nat → Nat → Rat) (rows : List Pair) (n : Nat) :
    weightedSum w (matrixSpec rows n)
      = gridSum n (fun i j => w i j * (countPair rows ((i : Int), (j : Int)) : Rat)) := by
  simp [weightedSum, matrixSpec, gridSum, List.zipIdx_map, zipIdx_range, List.map_map, Function.comp_def]

theorem sum_map_const_rat {γ : Type} (l : List γ) (c : Rat) : (l.map (fun _ => c)).sum = c * (l.length : Rat) := by
  induction l with
  | nil => simp
  | cons x xs ih => simp only [List.map_cons, List.sum_cons, ih, List.length_cons]; grind

/-- **C05 (jump-diffusivity sum)**: with `w` the squared minimum-image site distance, `Σ w(i,j) · M_ij` is the sum of
the squared jump distances over the jumps. -/
theorem weightedSum_eq_rows (w : Nat → Nat → Rat) (rows : List Pair) (n : Nat) (hv : Valid rows n) :
    weightedSum w (matrixSpec rows n) = (rows.map (fun p => w p.1.toNat p.2.toNat)).sum := by
  rw [weightedSum_eq, ← gridSum_fiber n rows hv]
  congr 1
  funext i j
  rw [countPair, ← sum_map_const_rat]
  exact congrArg List.sum (List.map_congr_left fun p hp => by simp [of_decide_eq_true (List.mem_filter.1 hp).2])

/-- **C05 (occupancy)**: the per-site frame counts and the "no site" count add up to the
number of (frame, atom) entries (`states.length`), i.e. Σ_i occupancy_i · T = #{entries at a site}. -/
theorem occ_sum (states : List Int) (n : Nat) (hs : ∀ x ∈ states, -1 ≤ x ∧ x < n) :
    (((List.range n).map (fun (k : Nat) => occCount states (k : Int))).sum + occCount states (-1))
      = states.length := by
  -- counting with the state itself as key; the keys are "no site" and the `n` sites
  have hnd : ((-1 : Int) :: (List.range n).map Int.ofNat).Nodup :=
    List.nodup_cons.2 ⟨by simp, List.nodup_range.map _ fun a b h e => h (Int.ofNat_inj.1 e)⟩
  have h := sum_group_length (fun x : Int => x) hnd states fun x hx =>
    (Lists.mem_neg_one_cons_range n x).2 (hs x hx)
  rw [← h, List.map_cons, List.sum_cons, List.map_map, Nat.add_comm]
  rfl

/-- defect D5 (known finding): the move (−1 → 1) is booked as a move (1 → 1) of the last site -/
theorem nosite_fold_counterexample :
    matrixAsIs [(0, 1), (-1, 1)] 2 = some [[0, 1], [0, 1]] ∧ countPair [(0, 1), (-1, 1)] (1, 1) = 0 := by
  decide

/-- … and the count of (−1 → 0) is overwritten by that of (1 → 0): assignment, not accumulation -/
theorem nosite_overwrite_counterexample :
    matrixAsIs [(-1, 0), (-1, 0), (1, 0)] 2 = some [[0, 0], [1, 0]] := by
  decide

example : Valid [(0, 1), (2, 0), (0, 1)] 3 ∧
    matrixAsIs [(0, 1), (2, 0), (0, 1)] 3 = some [[0, 2, 0], [0, 0, 0], [1, 0, 0]] := by
  refine ⟨?_, by decide⟩
  intro p hp; simp at hp; rcases hp with h | h | h <;> subst h <;> decide

end G.C05
