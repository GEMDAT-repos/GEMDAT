/-!
# List facts that belong to no one model (core Lean only)

A concatenation of blocks of equal length `b` is indexed by `i·b + r` (C-order dense arrays, one block per
vector); `eraseDups` leaves no duplicates; `np.digitize` against `0, …, n−1` counts the `k < n` below a
bound; the range `−1, 0, …, n−1` of site states.
-/
namespace G.Lists

theorem nodup_eraseDups {β : Type} [BEq β] [LawfulBEq β] : ∀ (l : List β), l.eraseDups.Nodup
  | [] => by simp
  | a :: as => by
    rw [List.eraseDups_cons, List.nodup_cons]
    exact ⟨by simp [List.mem_eraseDups], nodup_eraseDups _⟩
termination_by l => l.length
decreasing_by exact Nat.lt_succ_of_le (List.length_filter_le _ _)

theorem length_flatMap_uniform {α β : Type} {f : α → List β} {b : Nat} {l : List α}
    (hf : ∀ a ∈ l, (f a).length = b) : (l.flatMap f).length = l.length * b := by
  rw [List.length_flatMap, List.map_congr_left hf, List.map_const', List.sum_replicate_nat]

theorem getElem?_flatMap_uniform {α β : Type} (f : α → List β) (b : Nat) :
    ∀ (l : List α), (∀ a ∈ l, (f a).length = b) → ∀ (i r : Nat) (hi : i < l.length), r < b →
      (l.flatMap f)[i * b + r]? = (f l[i])[r]?
  | [], _, i, _, hi, _ => by simp at hi
  | a :: l, hf, 0, r, _, hr => by
    rw [List.flatMap_cons, Nat.zero_mul, Nat.zero_add,
      List.getElem?_append_left (by rw [hf a List.mem_cons_self]; exact hr)]
    rfl
  | a :: l, hf, i + 1, r, hi, hr => by
    have ha := hf a List.mem_cons_self
    rw [List.flatMap_cons, List.getElem?_append_right (by rw [ha, Nat.succ_mul]; omega), ha,
      show (i + 1) * b + r - b = i * b + r by rw [Nat.succ_mul]; omega,
      getElem?_flatMap_uniform f b l (fun x hx => hf x (List.mem_cons_of_mem _ hx)) i r
        (by simpa using hi) hr]
    rfl

theorem getD_flatMap_range {α : Type} (f : Nat → List α) (b : Nat)
    (hf : ∀ i, (f i).length = b) (d : α) (a i r : Nat) (hi : i < a) (hr : r < b) :
    ((List.range a).flatMap f).getD (i * b + r) d = (f i).getD r d := by
  rw [List.getD_eq_getElem?_getD, getElem?_flatMap_uniform f b _ (fun x _ => hf x) i r
    (by rwa [List.length_range]) hr, List.getElem_range, List.getD_eq_getElem?_getD]

theorem length_filter_lt_range (n m : Nat) :
    ((List.range n).filter (fun k => decide (k < m))).length = min m n := by
  induction n with
  | zero => simp
  | succ n ih =>
    rw [List.range_succ, List.filter_append, List.length_append, ih]
    by_cases h : n < m
    · rw [List.filter_cons_of_pos (p := fun k => decide (k < m)) (decide_eq_true h), List.filter_nil,
        List.length_singleton]; omega
    · rw [List.filter_cons_of_neg (p := fun k => decide (k < m)) (by rwa [decide_eq_true_eq]),
        List.filter_nil, List.length_nil]; omega

theorem mem_neg_one_cons_range (n : Nat) (i : Int) :
    i ∈ ((-1 : Int) :: (List.range n).map (fun (m : Nat) => (m : Int))) ↔ (-1 ≤ i ∧ i < n) := by
  simp only [List.mem_cons, List.mem_map, List.mem_range]
  constructor
  · rintro (h | ⟨m, hm, rfl⟩) <;> omega
  · intro ⟨h1, h2⟩
    by_cases h : i = -1
    · left; exact h
    · right; exact ⟨i.toNat, by omega, by omega⟩

end G.Lists
