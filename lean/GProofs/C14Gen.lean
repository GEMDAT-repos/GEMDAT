import GGen.FormulasC14
import Mathlib.Algebra.Order.Field.Rat
import Mathlib.Tactic.Positivity
import Mathlib.Tactic.Ring
/-!
# C14 — obligations on the slice regenerated from the formulas of `TrajectoryMetrics` (GGen/FormulasC14.lean); see DESIGN 12.8
-/
namespace G.C14Gen
open G

theorem tracerDiffusivity_eq (msd a dims t : ℚ) : Gen.tracerDiffusivity msd a dims t = msd * a ^ 2 / (2 * dims * t) := by
  unfold Gen.tracerDiffusivity
  ring

/-- cell scaled by k: squared distances scale with k², so does the diffusivity -/
theorem tracerDiffusivity_scale_cell (k msd a dims t : ℚ) :
    Gen.tracerDiffusivity (k ^ 2 * msd) a dims t = k ^ 2 * Gen.tracerDiffusivity msd a dims t := by
  unfold Gen.tracerDiffusivity
  ring

/-- time step scaled by s: diffusivity divided by s (no `s ≠ 0` needed: over ℚ `x / 0 = 0`, so for `s = 0` both sides are `0`) -/
theorem tracerDiffusivity_scale_time (s msd a dims t : ℚ) :
    Gen.tracerDiffusivity msd a dims (s * t) = Gen.tracerDiffusivity msd a dims t / s := by
  unfold Gen.tracerDiffusivity
  ring

/-- cell scaled by k: volume × k³, density / k³ (for `k = 0` both sides are `0`) -/
theorem particleDensity_scale_cell (k n vol a : ℚ) :
    Gen.particleDensity n (k ^ 3 * vol) a = Gen.particleDensity n vol a / k ^ 3 := by
  unfold Gen.particleDensity
  ring

theorem particleDensity_pos (n vol a : ℚ) (hn : 0 < n) (hv : 0 < vol) (ha : 0 < a) : 0 < Gen.particleDensity n vol a := by
  unfold Gen.particleDensity
  positivity

theorem molPerLiter_eq (rho NA : ℚ) : Gen.molPerLiter rho NA = rho / 1000 / NA := by
  unfold Gen.molPerLiter
  ring

/-- quadratic in the ion charge -/
theorem tracerConductivity_scale_charge (e z D rho kB T c : ℚ) :
    Gen.tracerConductivity e (c * z) D rho kB T = c ^ 2 * Gen.tracerConductivity e z D rho kB T := by
  unfold Gen.tracerConductivity
  ring

theorem tracerConductivity_eq (e z D rho kB T : ℚ) :
    Gen.tracerConductivity e z D rho kB T = e ^ 2 * z ^ 2 * D * rho / (kB * T) := by
  unfold Gen.tracerConductivity
  ring

theorem havenRatio_eq (D C : ℚ) : Gen.havenRatio D C = D / C := by
  unfold Gen.havenRatio
  ring

/-- atoms that all move identically: tracer and centre-of-mass diffusivity coincide, Haven ratio one -/
theorem havenRatio_one (D : ℚ) (hD : D ≠ 0) : Gen.havenRatio D D = 1 := by
  rw [havenRatio_eq, div_self hD]

/-- the Haven ratio does not depend on `dimensions` (both diffusivities carry the same 1/(2 d)) and not on the cell scale -/
theorem havenRatio_scale (c D Dcom : ℚ) (hc : c ≠ 0) : Gen.havenRatio (c * D) (c * Dcom) = Gen.havenRatio D Dcom := by
  rw [havenRatio_eq, havenRatio_eq, mul_div_mul_left D Dcom hc]

theorem com_forwards_dimensions : Gen.comForwardsDimensions = true := by
  rfl

end G.C14Gen
