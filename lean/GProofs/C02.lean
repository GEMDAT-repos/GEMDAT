import GModel.Sites
import GProofs.Geometry
import GProofs.Lists
import Mathlib.Tactic.Linarith
import Mathlib.Tactic.Ring
/-!
# C02 — site assignment follows the true minimum-image distance

`Geometry.minImageSqCert_spec` makes the model's periodic distance the exact minimum over all lattice
images, for every cell.  On top of that `assign` is `List.findIdx?` of the sphere test, with −1 for `none`
(`assignFrom_eq`); soundness and completeness are read off the library's lemmas about `findIdx?`.
-/
namespace G.C02
open G G.Sites G.Geometry

abbrev covers (G : Sym3) (frac : ℚ) (x : V3) (p : V3 × ℚ) : Bool := within G (p.2 * frac) p.1 x

theorem assignFrom_eq (G : Sym3) (frac : ℚ) (sites : List (V3 × ℚ)) (x : V3) (k : Nat) :
    assignFrom G frac k sites x = match sites.findIdx? (covers G frac x) with
      | some j => ((k + j : Nat) : Int)
      | none => -1 := by
  induction sites generalizing k with
  | nil => rfl
  | cons p rest ih =>
    rw [assignFrom, List.findIdx?_cons, ih (k + 1)]
    by_cases h : covers G frac x p = true
    · rw [if_pos h, if_pos h]; rfl
    · rw [if_neg h, if_neg h]
      cases List.findIdx? (covers G frac x) rest with
      | none => rfl
      | some j => simp only [Option.map_some, Nat.add_assoc, Nat.add_comm 1 j]

theorem assign_eq (G : Sym3) (frac : ℚ) (sites : List (V3 × ℚ)) (x : V3) :
    assign G frac sites x = match sites.findIdx? (covers G frac x) with
      | some j => (j : Int)
      | none => -1 := by
  rw [assign, assignFrom_eq]
  simp only [Nat.zero_add]

theorem assign_eq_natCast_iff (G : Sym3) (frac : ℚ) (sites : List (V3 × ℚ)) (x : V3) (k : Nat) :
    assign G frac sites x = (k : Int) ↔ ∃ h : k < sites.length, covers G frac x sites[k] = true ∧
      ∀ j (hj : j < k), ¬ covers G frac x (sites[j]'(Nat.lt_trans hj h)) = true := by
  rw [assign_eq, ← List.findIdx?_eq_some_iff_getElem]
  cases sites.findIdx? (covers G frac x) with
  | none => exact ⟨fun (h : (-1 : Int) = k) => by omega, nofun⟩
  | some j => simp only [Nat.cast_inj, Option.some.injEq]

theorem assign_range (G : Sym3) (frac : ℚ) (sites : List (V3 × ℚ)) (x : V3) :
    assign G frac sites x = -1 ∨ (0 ≤ assign G frac sites x ∧ assign G frac sites x < sites.length) := by
  rw [assign_eq]
  cases h : sites.findIdx? (covers G frac x) with
  | none => exact Or.inl rfl
  | some j => exact Or.inr ⟨Int.natCast_nonneg j, Int.ofNat_lt.mpr (List.findIdx?_eq_some_iff_getElem.mp h).1⟩

/-- **C02 (sound)**: a reported site really contains the atom, and no earlier site does. -/
theorem assign_sound (G : Sym3) (frac : ℚ) (sites : List (V3 × ℚ)) (x : V3) (k : Nat)
    (h : assign G frac sites x = (k : Int)) :
    ∃ s r, sites[k]? = some (s, r) ∧ within G (r * frac) s x = true ∧
      ∀ j, j < k → ∀ s' r', sites[j]? = some (s', r') → within G (r' * frac) s' x = false := by
  obtain ⟨hk, hin, hbefore⟩ := (assign_eq_natCast_iff G frac sites x k).mp h
  refine ⟨sites[k].1, sites[k].2, List.getElem?_eq_getElem hk, hin, fun j hj s' r' hget => ?_⟩
  obtain ⟨hj', he⟩ := List.getElem?_eq_some_iff.mp hget
  have := hbefore j hj
  rw [he] at this
  exact Bool.eq_false_iff.mpr this

/-- **C02 (complete)**: "no site" is reported exactly when the atom is outside every sphere. -/
theorem assign_none_iff (G : Sym3) (frac : ℚ) (sites : List (V3 × ℚ)) (x : V3) :
    assign G frac sites x = -1 ↔ ∀ p ∈ sites, within G (p.2 * frac) p.1 x = false := by
  rw [assign_eq]
  refine Iff.trans ?_ (List.findIdx?_eq_none_iff (p := covers G frac x))
  cases sites.findIdx? (covers G frac x) with
  | none => exact ⟨fun _ => rfl, fun _ => rfl⟩
  | some j => exact ⟨fun (h : (j : Int) = -1) => by omega, nofun⟩

theorem assign_congr {G G' : Sym3} {frac frac' : ℚ} {x x' : V3} {sites sites' : List (V3 × ℚ)}
    (h : sites.map (covers G frac x) = sites'.map (covers G' frac' x')) :
    assign G frac sites x = assign G' frac' sites' x' := by
  have e (l : List (V3 × ℚ)) (q : V3 × ℚ → Bool) : l.findIdx? q = (l.map q).findIdx? id :=
    (List.findIdx?_map (p := id)).symm
  rw [assign_eq, assign_eq, e sites, e sites', h]

/-- **C02 (spheres)**: an atom inside two spheres of radius `r` forces the two centres to be less
than `2r` apart under the minimum-image distance. -/
theorem two_spheres_close (G : Sym3) (hpd : PosDef G) (s1 s2 x : V3) (r m1 m2 m12 : ℚ)
    (h1 : minImageSqCert G (x - s1) = some m1) (h2 : minImageSqCert G (x - s2) = some m2)
    (h12 : minImageSqCert G (s2 - s1) = some m12)
    (hr1 : m1 < r ^ 2) (hr2 : m2 < r ^ 2) : m12 < 4 * r ^ 2 := by
  -- `m1 = Q u`, `m2 = Q w` for images `u`, `w` of `x − s1`, `x − s2`; `u − w` is an image of `s2 − s1`, and
  -- `Q (u − w) ≤ 2 Q u + 2 Q w` by the parallelogram law
  obtain ⟨_, a1, a2, a3, rfl⟩ := minImageSqCert_spec G hpd (x - s1) m1 h1
  obtain ⟨_, b1, b2, b3, rfl⟩ := minImageSqCert_spec G hpd (x - s2) m2 h2
  have hk := (minImageSqCert_spec G hpd (s2 - s1) m12 h12).1 (a1 - b1) (a2 - b2) (a3 - b3)
  have hshift : shiftBy (s2 - s1) (a1 - b1) (a2 - b2) (a3 - b3)
      = shiftBy (x - s1) a1 a2 a3 - shiftBy (x - s2) b1 b2 b3 := by
    simp only [shiftBy, V3.sub_def, V3.mk.injEq]
    refine ⟨?_, ?_, ?_⟩ <;> push_cast <;> ring
  rw [hshift] at hk
  have hpar := Q_parallelogram G (shiftBy (x - s1) a1 a2 a3) (shiftBy (x - s2) b1 b2 b3)
  have hnn := Q_nonneg_of_posdef G hpd (shiftBy (x - s1) a1 a2 a3 + shiftBy (x - s2) b1 b2 b3)
  linarith

/-- … hence with `2r ≤` the site separation no atom is inside both spheres: the assignment is unique. -/
theorem unique_of_disjoint (G : Sym3) (hpd : PosDef G) (s1 s2 x : V3) (r m1 m2 m12 : ℚ)
    (h1 : minImageSqCert G (x - s1) = some m1) (h2 : minImageSqCert G (x - s2) = some m2)
    (h12 : minImageSqCert G (s2 - s1) = some m12) (hsep : 4 * r ^ 2 ≤ m12) :
    ¬ (m1 < r ^ 2 ∧ m2 < r ^ 2) :=
  fun ⟨hr1, hr2⟩ => (two_spheres_close G hpd s1 s2 x r m1 m2 m12 h1 h2 h12 hr1 hr2).not_ge hsep

/-- the automatic radius `½ d_min − 0.005` (taken when `2·vibration amplitude` would overlap) keeps
the spheres disjoint -/
theorem auto_radius_disjoint (dmin r : ℚ) (hr0 : 0 ≤ r) (hr : r ≤ dmin / 2 - 5 / 1000) : 4 * r ^ 2 < dmin ^ 2 := by
  calc 4 * r ^ 2 = (2 * r) ^ 2 := by ring
    _ < dmin ^ 2 := pow_lt_pow_left₀ (by linarith) (by linarith) two_ne_zero

theorem within_mono (G : Sym3) {r frac : ℚ} (s x : V3) (hr : 0 ≤ r) (hf0 : 0 ≤ frac) (hf1 : frac ≤ 1)
    (h : within G (r * frac) s x = true) : within G r s x = true := by
  simp only [within, decide_eq_true_eq] at h ⊢
  exact h.trans_le (pow_le_pow_left₀ (mul_nonneg hr hf0) (mul_le_of_le_one_right hr hf1) 2)

/-- **C02 (inner site)**: the inner site is either "none" or the outer site.  `hcert` is not needed. -/
theorem inner_subset (G : Sym3) (frac : ℚ) (sites : List (V3 × ℚ)) (x : V3) (hf0 : 0 ≤ frac) (hf1 : frac ≤ 1)
    (hr : ∀ p ∈ sites, 0 ≤ p.2) (hcert : ∀ p ∈ sites, 0 ≤ pbcDistSq G p.1 x)
    (huniq : ∀ (i j : Nat) (p q : V3 × ℚ), sites[i]? = some p → sites[j]? = some q →
      within G p.2 p.1 x = true → within G q.2 q.1 x = true → i = j) :
    assign G frac sites x = -1 ∨ assign G frac sites x = assign G 1 sites x := by
  rcases assign_range G frac sites x with h | ⟨h0, _⟩
  · exact Or.inl h
  -- the inner site `k` also contains the atom at full radius; by uniqueness no earlier site does
  obtain ⟨k, hk⟩ := Int.eq_ofNat_of_zero_le h0
  obtain ⟨hlt, hin, _⟩ := (assign_eq_natCast_iff G frac sites x k).mp hk
  have hfull := within_mono G _ x (hr _ (List.getElem_mem hlt)) hf0 hf1 hin
  refine Or.inr (hk.trans ((assign_eq_natCast_iff G 1 sites x k).mpr
    ⟨hlt, by rwa [covers, mul_one], fun j hj hc => ?_⟩).symm)
  rw [covers, mul_one] at hc
  exact absurd (huniq j k _ _ (List.getElem?_eq_getElem _) (List.getElem?_eq_getElem hlt) hc hfull) hj.ne

theorem digitizeRight_range (n a : Nat) :
    digitizeRight ((List.range n).map (fun (k : Nat) => (k : Int))) (a : Int) = min a n := by
  rw [digitizeRight, List.filter_map, List.length_map, ← Lists.length_filter_lt_range n a]
  congr 2
  funext k
  exact decide_eq_decide.mpr Int.ofNat_lt

/-- per-label mapping as repaired: indexing the group's key array is the identity-palette remap -/
theorem remap_identity (key : List Int) (a : Nat) (ha : a < key.length) :
    integerRemap key ((List.range key.length).map (fun (k : Nat) => (k : Int))) (a : Int) = key[a]? := by
  unfold integerRemap
  rw [digitizeRight_range, Nat.min_eq_left (le_of_lt ha)]

/-- defect D3 (repaired): with the palette of *visited* group members [1, 2] (member 0 never visited)
group-local index 2 is mapped to key[1] instead of key[2] -/
theorem remap_visited_counterexample :
    integerRemap [5, 7, 9] [1, 2] 2 = some 7 ∧ integerRemap [5, 7, 9] [0, 1, 2] 2 = some 9 := by
  decide

/-- a cubic 8 Å cell, two sites 2 Å apart through the boundary, radius 0.9 -/
example :
    let M : M3 := ⟨⟨8, 0, 0⟩, ⟨0, 8, 0⟩, ⟨0, 0, 8⟩⟩
    let sites : List (V3 × ℚ) := [(⟨1/8, 0, 0⟩, 9/10), (⟨7/8, 0, 0⟩, 9/10)]
    assign M.metric 1 sites ⟨15/16, 0, 0⟩ = 1 ∧ assign M.metric (1/2) sites ⟨15/16, 0, 0⟩ = -1 ∧
    assign M.metric 1 sites ⟨1/2, 0, 0⟩ = -1 ∧ minImageSqCert M.metric (⟨7/8, 0, 0⟩ - ⟨1/8, 0, 0⟩) = some 4 := by
  decide +kernel

end G.C02
