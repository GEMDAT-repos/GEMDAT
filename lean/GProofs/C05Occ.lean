import GModel.OccLabels
import GProofs.C05
import GProofs.C05Lab
import Mathlib.Tactic.Positivity
/-!
# C05 (occupancy by label) — `atom_locations` and `occupancy_by_site_type` conserve the occupancies

Every site carries exactly one label, so summing per label and then over the labels is summing over the sites
(`sum_over_labels`, an instance of `C05.sum_group`).
-/
namespace G.C05Occ
open G G.Counts G.OccLabels

theorem sum_over_labels (labels : List String) (g : Nat → ℚ) :
    ((labelKeys labels).map (fun a => ((sitesOf labels a).map g).sum)).sum = ((List.range labels.length).map g).sum :=
  C05.sum_group (fun k => labels.getD k "") g (Lists.nodup_eraseDups labels) _ fun k hk => by
    have hk' : k < labels.length := List.mem_range.mp hk
    rw [List.mem_eraseDups, List.getD_eq_getElem?_getD, List.getElem?_eq_getElem hk']
    exact List.getElem_mem hk'

/-- **C05 (atom locations)**: the `atom_locations` of all site types add up to the summed site occupancies divided by the
number of diffusing atoms. -/
theorem atomLocations_total (labels : List String) (states : List Int) (nFrames nFloat : Nat) :
    ((labelKeys labels).map (atomLocation labels states nFrames nFloat)).sum
      = ((List.range labels.length).map (siteOcc states nFrames)).sum / (nFloat : ℚ) := by
  rw [← sum_over_labels labels (siteOcc states nFrames), ← C05Lab.sum_map_div]
  rfl

theorem sum_siteOcc (states : List Int) (nFrames n : Nat) :
    ((List.range n).map (siteOcc states nFrames)).sum
      = (((List.range n).map (fun (k : Nat) => occCount states (k : Int))).sum : ℚ) / (nFrames : ℚ) := by
  rw [C05Lab.natCast_sum, List.map_map, ← C05Lab.sum_map_div]
  rfl

/-- **C05 (atom locations add up)**: the fractions of time at the site types plus the fraction at no site are one. -/
theorem atomLocations_fraction (labels : List String) (states : List Int) (nFrames nFloat : Nat)
    (hs : ∀ x ∈ states, -1 ≤ x ∧ x < (labels.length : Int)) (hlen : states.length = nFrames * nFloat)
    (hF : 0 < nFrames) (hA : 0 < nFloat) :
    ((labelKeys labels).map (atomLocation labels states nFrames nFloat)).sum
      + (occCount states (-1) : ℚ) / ((nFrames : ℚ) * (nFloat : ℚ)) = 1 := by
  rw [atomLocations_total, sum_siteOcc]
  have hq := congrArg (Nat.cast : ℕ → ℚ) ((C05.occ_sum states labels.length hs).trans hlen)
  rw [Nat.cast_add, Nat.cast_mul] at hq
  rw [div_div, ← add_div, hq, div_self]
  positivity

/-- **C05 (occupancy by site type)**: weighting each type's mean by its number of sites gives back the total occupancy. -/
theorem occByType_weighted (labels : List String) (states : List Int) (nFrames : Nat) :
    ((labelKeys labels).map (fun a => ((sitesOf labels a).length : ℚ) * occByType labels states nFrames a)).sum
      = ((List.range labels.length).map (siteOcc states nFrames)).sum := by
  rw [← sum_over_labels labels (siteOcc states nFrames)]
  refine congrArg List.sum (List.map_congr_left fun a _ => ?_)
  -- a type without sites has mean 0 / 0 = 0 and an empty sum
  refine mul_div_cancel_of_imp' fun h0 => ?_
  rw [List.length_eq_zero_iff.1 (Nat.cast_eq_zero.1 h0)]
  rfl

example : atomLocation ["A", "B", "A"] [0, 2, -1, 1] 2 2 "A" = 1 / 2 ∧ atomLocation ["A", "B", "A"] [0, 2, -1, 1] 2 2 "B" = 1 / 4 ∧
    occByType ["A", "B", "A"] [0, 2, -1, 1] 2 "A" = 1 / 2 := by decide +kernel

end G.C05Occ
