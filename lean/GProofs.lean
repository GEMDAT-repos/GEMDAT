import GProofs.AuditCmd
import GProofs.Scalar
import GProofs.Frame
import GProofs.Sums
import GProofs.Lists
import GProofs.Geometry
import GProofs.Machine
import GProofs.C01
import GProofs.C02
import GProofs.C03
import GProofs.C04
import GProofs.C05
import GProofs.C06
import GProofs.C07
import GProofs.C08
import GProofs.C09
import GProofs.C10
import GProofs.C11
import GProofs.C12
import GProofs.C13
import GProofs.C14
import GProofs.C15
import GProofs.C16
import GProofs.C17
import GProofs.C18
import GProofs.C19
import GProofs.C20
import GProofs.C04Strict
import GProofs.C04Gen
import GProofs.C12Gen
import GProofs.C08Fl
import GProofs.C13Rigid
import GProofs.C05Lab
import GProofs.C13Sel
import GProofs.C10Peak
import GProofs.C01Gen
import GProofs.C02Gen
import GProofs.C05Gen
import GProofs.C08Gen
import GProofs.C09Gen
import GProofs.C10Gen
import GProofs.C14Gen
import GProofs.C11Gen
import GProofs.C12Win
import GProofs.C19Gen
import GProofs.C17Gen
import GProofs.C18Gen
import GProofs.C06Gen
import GProofs.C20Gen
import GProofs.C07Pipe
import GProofs.C11Names
import GProofs.C06Fft
import GProofs.C16Names
import GProofs.C12Exit
import GProofs.C05Occ
